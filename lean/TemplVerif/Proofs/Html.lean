import TemplVerif.Spec.HtmlTok
import TemplVerif.Model.Attrs
import TemplVerif.Proofs.Bytes
/- `Html.escape` against the tokenizer: its output has no structural byte and decodes back to its input; runs of the
   tokenizer over bytes that only extend what is being read; the attribute forms of C01. -/
namespace TemplVerif.Proofs.Html
open TemplVerif TemplVerif.Html TemplVerif.HtmlTok TemplVerif.Attrs

/-- The five bytes the escaper replaces, as a list so that facts about them are `decide`d over it; uses unfold it. -/
def special : Bytes := [38, 60, 62, 34, 39]

theorem escapeByte_cases (b : UInt8) :
    b ∈ special ∨ (escapeByte b = [b] ∧ b ≠ 38 ∧ structural b = false) := by
  by_cases h : b ∈ special
  · exact .inl h
  · simp only [special, List.mem_cons, List.not_mem_nil, or_false, not_or] at h
    exact .inr ⟨by simp [escapeByte, h], h.1, by simp [structural, h]⟩

theorem escapeByte_noStructural (b : UInt8) : ∀ c ∈ escapeByte b, structural c = false :=
  (escapeByte_cases b).elim ((by decide : ∀ b ∈ special, ∀ c ∈ escapeByte b, structural c = false) b)
    fun h c hc => by rw [h.1] at hc; exact List.mem_singleton.1 hc ▸ h.2.2

theorem escape_noStructural (s : Bytes) : ∀ b ∈ escape s, structural b = false := by
  induction s with
  | nil => simp [escape]
  | cons b rest ih =>
    intro c hc
    simp only [escape, List.mem_append] at hc
    rcases hc with hc | hc
    · exact escapeByte_noStructural b c hc
    · exact ih c hc

theorem escape_append (a b : Bytes) : escape (a ++ b) = escape a ++ escape b := by
  induction a with
  | nil => simp [escape]
  | cons x rest ih => simp [escape, ih]

theorem decodeRefs_cons_ne (b : UInt8) (hb : b ≠ 38) (rest : Bytes) : decodeRefs (b :: rest) = b :: decodeRefs rest := by
  -- only the catch-all arm can match; its equation asks that none of the five `&…` arms does, which `b ≠ 38` gives
  rw [decodeRefs]
  all_goals (intros; simp_all)

theorem decode_escape_append (s rest : Bytes) : decodeRefs (escape s ++ rest) = s ++ decodeRefs rest := by
  induction s with
  | nil => simp [escape]
  | cons b x ih =>
    rw [escape, List.append_assoc]
    rcases escapeByte_cases b with h | h
    · simp only [special, List.mem_cons, List.not_mem_nil, or_false] at h
      rcases h with rfl | rfl | rfl | rfl | rfl
      all_goals exact congrArg (_ :: ·) ih
    · rw [h.1, List.singleton_append, decodeRefs_cons_ne b h.2.1, ih, List.cons_append]

theorem decode_escape (s : Bytes) : decodeRefs (escape s) = s := by
  have := decode_escape_append s []
  simpa [decodeRefs] using this

theorem run_append (σ : S) (a b : Bytes) : run σ (a ++ b) = run (run σ a) b := by
  simp [run, List.foldl_append]

theorem run_cons (σ : S) (a : UInt8) (b : Bytes) : run σ (a :: b) = run (step σ a) b := rfl
theorem run_nil (σ : S) : run σ [] = σ := rfl

theorem run_all {f : Bytes → S} {p : UInt8 → Prop} (h1 : ∀ acc b, p b → step (f acc) b = f (acc ++ [b])) :
    ∀ (l : Bytes) (acc : Bytes), (∀ c ∈ l, p c) → run (f acc) l = f (acc ++ l)
  | [], acc, _ => by simp [run]
  | c :: l, acc, hl => by
    have := run_all h1 l (acc ++ [c]) fun d hd => hl d (List.mem_cons_of_mem _ hd)
    simpa [run, h1 acc c (hl c List.mem_cons_self)] using this

theorem run_data_plain {l : Bytes} {σ : HtmlTok.S} (hσ : σ.st = .data) (hl : ∀ c ∈ l, c ≠ 60) :
    run σ l = { σ with text := σ.text ++ l } :=
  run_all (f := fun t => { σ with text := t }) (fun acc b hb => by simp [step, hσ, dataStep, hb]) l σ.text hl

theorem run_attrDQ_plain {l : Bytes} {σ : HtmlTok.S} (hσ : σ.st = .attrDQ) (hl : ∀ c ∈ l, c ≠ 34) :
    run σ l = { σ with av := σ.av ++ l } :=
  run_all (f := fun t => { σ with av := t }) (fun acc b hb => by simp [step, hσ, hb]) l σ.av hl

theorem escape_ne (s : Bytes) {k : UInt8} (hk : structural k = true) : ∀ c ∈ escape s, c ≠ k :=
  fun c hc e => Bool.false_ne_true ((escape_noStructural s c hc).symm.trans (e ▸ hk))

theorem hole_data (σ : S) (hσ : σ.st = .data) (s : Bytes) :
    run σ (escape s) = { σ with text := σ.text ++ escape s } :=
  run_data_plain hσ (escape_ne s (by decide))

theorem hole_attrDQ (σ : S) (hσ : σ.st = .attrDQ) (s : Bytes) :
    run σ (escape s) = { σ with av := σ.av ++ escape s } :=
  run_attrDQ_plain hσ (escape_ne s (by decide))

/-- A byte of an attribute or tag name as the template author writes it: lower-case letters, digits and
    `-` `:` `_` `.` `@`. -/
def niceNameByte (b : UInt8) : Bool :=
  (97 ≤ b && b ≤ 122) || (48 ≤ b && b ≤ 57) || b == 45 || b == 58 || b == 95 || b == 46 || b == 64
def niceName (n : Bytes) : Bool := !n.isEmpty && n.all niceNameByte

/-- Called as `nice_ne h 47`: that `k` is no name byte is decided at the call. -/
theorem nice_ne {b : UInt8} (h : niceNameByte b = true) (k : UInt8) (hk : niceNameByte k = false := by decide) :
    b ≠ k :=
  fun e => Bool.false_ne_true (hk.symm.trans (e ▸ h))

theorem nice_escapeByte {b : UInt8} (h : niceNameByte b = true) : escapeByte b = [b] := by
  simp [escapeByte, nice_ne h 38, nice_ne h 60, nice_ne h 62, nice_ne h 34, nice_ne h 39]

theorem nice_isWs {b : UInt8} (h : niceNameByte b = true) : isWs b = false := by
  simp [isWs, nice_ne h 9, nice_ne h 10, nice_ne h 12, nice_ne h 32, nice_ne h 13]

theorem nice_lower {b : UInt8} (h : niceNameByte b = true) : lower b = b := by
  simp only [niceNameByte, lower, Bool.or_eq_true, Bool.and_eq_true, decide_eq_true_eq, beq_iff_eq,
    UInt8.le_iff_toNat_le, ← UInt8.toNat_inj] at h ⊢
  rw [if_neg]
  simp at h ⊢
  omega

theorem escape_nice (n : Bytes) (h : n.all niceNameByte = true) : escape n = n := by
  induction n with
  | nil => rfl
  | cons b r ih =>
    simp only [List.all_cons, Bool.and_eq_true] at h
    simp [escape, nice_escapeByte h.1, ih h.2]

theorem step_attrName_nice (σ : S) (hσ : σ.st = .attrName) (b : UInt8) (h : niceNameByte b = true) :
    step σ b = { σ with an := σ.an ++ [b] } := by
  simp only [step, hσ, attrNameStep, nice_isWs h, nice_lower h]
  simp [nice_ne h 47, nice_ne h 62, nice_ne h 61]

theorem run_attrName_nice {l : Bytes} {σ : HtmlTok.S} (hσ : σ.st = .attrName) (hl : l.all niceNameByte = true) :
    run σ l = { σ with an := σ.an ++ l } :=
  run_all (f := fun t => { σ with an := t }) (fun acc b hb => step_attrName_nice { σ with an := acc } hσ b hb) l σ.an
    (List.all_eq_true.mp hl)

theorem step_tagName_nice (σ : S) (hσ : σ.st = .tagName) (b : UInt8) (h : niceNameByte b = true) :
    step σ b = { σ with name := σ.name ++ [b] } := by
  simp only [step, hσ, nice_isWs h, nice_lower h]
  simp [nice_ne h 47, nice_ne h 62]

theorem run_tagName_nice {l : Bytes} {σ : HtmlTok.S} (hσ : σ.st = .tagName) (hl : l.all niceNameByte = true) :
    run σ l = { σ with name := σ.name ++ l } :=
  run_all (f := fun t => { σ with name := t }) (fun acc b hb => step_tagName_nice { σ with name := acc } hσ b hb) l
    σ.name (List.all_eq_true.mp hl)

/-- inside a tag, where `>` ends it and a space and a name start the next attribute: behind the tag name, white
    space, a quoted value or a name without value -/
def inTag (σ : S) : Prop :=
  σ.st = .tagName ∨ σ.st = .beforeAttrName ∨ σ.st = .afterAttrValueQ ∨ σ.st = .attrName

@[simp] theorem finishAttr_fields (σ : S) : (finishAttr σ).st = σ.st ∧ (finishAttr σ).name = σ.name ∧
    (finishAttr σ).isEnd = σ.isEnd ∧ (finishAttr σ).text = σ.text ∧ (finishAttr σ).out = σ.out ∧
    (finishAttr σ).hasAttr = false := by
  unfold finishAttr; split <;> simp_all

theorem startAttr_st (σ : S) (x : St) : startAttr { σ with st := x } = { startAttr σ with st := x } := by
  unfold startAttr finishAttr; cases σ.hasAttr <;> rfl

theorem flushText_st (σ : S) (x : St) : flushText { σ with st := x } = { flushText σ with st := x } := by
  unfold flushText; cases σ.text.isEmpty <;> rfl

/-- `<name` (`e = false`) or `</name` (`e = true`) read in the data state. -/
theorem run_tagOpen {σ : S} (hσ : σ.st = .data) (e : Bool) {b : UInt8} {rest : Bytes}
    (hb : (97 ≤ b && b ≤ 122) = true) (hrest : rest.all niceNameByte = true) :
    run σ (60 :: ((if e then [47] else []) ++ b :: rest)) =
      { flushText σ with st := .tagName, name := b :: rest, isEnd := e, attrs := [], hasAttr := false } := by
  have hn : niceNameByte b = true := by simp [niceNameByte, hb]
  have ha : isAlpha b = true := by simp [isAlpha, hb]
  have e1 : step σ 60 = { σ with st := .tagOpen } := by simp [step, hσ, dataStep]
  rw [run_cons, e1]
  cases e with
  | false =>
    have e2 : step { σ with st := .tagOpen } b =
        { flushText { σ with st := .tagOpen } with st := .tagName, name := [b], isEnd := false, attrs := [], hasAttr := false } := by
      simp [step, nice_ne hn 33, nice_ne hn 47, ha, nice_lower hn]
    show run _ (b :: rest) = _
    rw [run_cons, e2, flushText_st, run_tagName_nice rfl hrest]
    rfl
  | true =>
    have e2 : step { σ with st := .tagOpen } 47 = { σ with st := .endTagOpen } := by simp [step]
    have e3 : step { σ with st := .endTagOpen } b =
        { flushText { σ with st := .endTagOpen } with st := .tagName, name := [b], isEnd := true, attrs := [], hasAttr := false } := by
      simp [step, ha, nice_lower hn]
    show run _ (47 :: b :: rest) = _
    rw [run_cons, e2, run_cons, e3, flushText_st, run_tagName_nice rfl hrest]
    rfl

theorem step_gt {σ : S} (h : inTag σ) : step σ 62 = emitTag σ false := by
  rcases h with h | h | h | h <;> simp [step, h, isWs, beforeAttrNameStep, attrNameStep]

theorem run_sp_name {σ : S} (hσ : inTag σ) {n : Bytes} (hn : niceName n = true) :
    run σ (32 :: n) = { startAttr σ with st := .attrName, an := n } := by
  simp only [niceName, Bool.and_eq_true] at hn
  cases n with
  | nil => simp at hn
  | cons b rest =>
    have hall := hn.2
    simp only [List.all_cons, Bool.and_eq_true] at hall
    obtain ⟨hb, hrest⟩ := hall
    -- the space leads to a state in which a name byte starts an attribute
    obtain ⟨x, hx, e1⟩ : ∃ x, (x = .beforeAttrName ∨ x = .afterAttrName) ∧ step σ 32 = { σ with st := x } := by
      rcases hσ with h | h | h | h
      · exact ⟨_, Or.inl rfl, by simp [step, h, isWs]⟩
      · exact ⟨_, Or.inl rfl, by simp [step, h, beforeAttrNameStep, isWs]⟩
      · exact ⟨_, Or.inl rfl, by simp [step, h, isWs]⟩
      · exact ⟨_, Or.inr rfl, by simp [step, h, attrNameStep, isWs]⟩
    have e2 : step { σ with st := x } b = { startAttr { σ with st := x } with st := .attrName, an := [b] } := by
      rcases hx with rfl | rfl <;>
        simp [step, beforeAttrNameStep, attrNameStep, nice_isWs hb, nice_lower hb, nice_ne hb 47,
          nice_ne hb 62, nice_ne hb 61, startAttr]
    rw [run_cons, e1, run_cons, e2, startAttr_st, run_attrName_nice rfl hrest]
    rfl

theorem run_attr_tail {τ : S} (hτ : τ.st = .attrName) (hh : τ.hasAttr = true) (hav : τ.av = []) (v : Bytes) :
    run τ (61 :: 34 :: (escape v ++ [34])) =
      { τ with st := .afterAttrValueQ, attrs := τ.attrs ++ [(τ.an, v)], an := [], av := [], hasAttr := false } := by
  have e1 : step τ 61 = { τ with st := .beforeAttrValue } := by
    simp [step, hτ, attrNameStep, isWs]
  have e2 : step { τ with st := .beforeAttrValue } 34 = { τ with st := .attrDQ } := by
    simp [step, isWs]
  rw [run_cons, e1, run_cons, e2, run_append, hole_attrDQ _ rfl, run_cons, run_nil]
  simp [step, finishAttr, hh, hav, decode_escape]

theorem attr_valued_tokens (σ : S) (hσ : inTag σ) (name v : Bytes) (hn : niceName name = true) :
    run σ (valued name v) =
      { finishAttr σ with st := .afterAttrValueQ, attrs := (finishAttr σ).attrs ++ [(name, v)],
                          an := [], av := [], hasAttr := false } := by
  have he : escape name = name := escape_nice _ (by simp only [niceName, Bool.and_eq_true] at hn; exact hn.2)
  simp only [valued, he, List.append_assoc, List.cons_append, List.nil_append]
  rw [← List.cons_append, run_append, run_sp_name hσ hn, run_attr_tail rfl rfl rfl]
  rfl

/-- The tokenizer inside `<script …`: right behind the tag name (`q = false`) or behind a quoted attribute value.
    The name is fixed because `emitTag` treats `script` specially (`run_script_close` evaluates it). -/
def inScript (q : Bool) (attrs : List (Bytes × Bytes)) : S :=
  { st := if q then .afterAttrValueQ else .tagName, name := [115, 99, 114, 105, 112, 116], attrs := attrs }

/-- `pre` is ` name="` as the model spells it, one literal byte list; the caller proves `hpre` by `rfl`. -/
theorem run_optAttr (q : Bool) (attrs : List (Bytes × Bytes)) (name x : Bytes) (hn : niceName name = true)
    {pre : Bytes} (hpre : pre = [32] ++ name ++ [61, 34]) :
    run (inScript q attrs) (if x.isEmpty then [] else pre ++ escape x ++ [34]) =
      inScript (q || !x.isEmpty) (attrs ++ if x.isEmpty then [] else [(name, x)]) := by
  subst hpre
  by_cases hx : x.isEmpty = true
  · simp [hx, run_nil]
  · have hv : [32] ++ name ++ [61, 34] ++ escape x ++ [34] = valued name x := by
      simp only [niceName, Bool.and_eq_true] at hn
      simp [valued, escape_nice name hn.2]
    simp only [hx, if_false, Bool.false_eq_true]
    rw [hv, attr_valued_tokens _ (by cases q <;> simp [inScript, inTag]) name x hn]
    cases q <;> simp [inScript, finishAttr]

theorem run_script_close (q : Bool) (attrs : List (Bytes × Bytes)) :
    (run (inScript q attrs) [62]).out = [Token.startTag [115, 99, 114, 105, 112, 116] attrs false] := by
  cases q <;> rfl

end TemplVerif.Proofs.Html
