import TemplVerif.Model.Fs
import TemplVerif.Proofs.Assoc
/-
C15. Each path is touched by at most one handler (`_templ.go` is written by the handler of its `.templ`, or removed by
its own when that does not exist) and no handler touches what any handler looks at (`.templ` files): so what a set `F`
of finished handlers has done to the tree, `eff F`, does not depend on the order in which they ran.
-/
namespace TemplVerif.Proofs.Fs
open TemplVerif TemplVerif.Fs

variable {cfg : Cfg} {genOf : Path → Bytes → Option Bytes} {fs0 : Fs}

theorem nodup_eraseDups {α} [BEq α] [LawfulBEq α] : ∀ l : List α, l.eraseDups.Nodup
  | [] => by simp
  | a :: as => by
    rw [List.eraseDups_cons, List.nodup_cons]
    exact ⟨by simp [List.mem_eraseDups], nodup_eraseDups _⟩
termination_by l => l.length
decreasing_by exact Nat.lt_succ_of_le (List.length_filter_le ..)

theorem get_nil (q : Path) : Fs.get [] q = none := rfl

theorem get_put (fs : Fs) (p q : Path) (c : Bytes) : Fs.get (put fs p c) q = if q = p then some c else Fs.get fs q :=
  Assoc.lookup_cons ..

theorem get_del (fs : Fs) (p q : Path) : Fs.get (del fs p) q = if q = p then none else Fs.get fs q :=
  Assoc.lookup_filter_ne ..

theorem mem_eventsOf {fs : Fs} {e : Path} :
    e ∈ eventsOf cfg fs ↔ (Fs.get fs e).isSome = true ∧ visited cfg e = true := by
  simp [eventsOf, List.mem_eraseDups, Fs.get]

theorem nodup_eventsOf {fs : Fs} : (eventsOf cfg fs).Nodup := by
  unfold eventsOf
  exact List.Pairwise.filter _ (nodup_eraseDups _)

theorem hasSuffix_iff (p suf : Bytes) : hasSuffix p suf = true ↔ suf <:+ p := by
  simp [hasSuffix, List.isSuffixOf_iff_suffix]

theorem templ_not_templGo {p : Path} (h1 : hasSuffix p sufTempl = true) (h2 : hasSuffix p sufTemplGo = true) : False := by
  rw [hasSuffix_iff] at h1 h2
  -- both would make `.templ` a suffix of `_templ.go`
  have := List.suffix_of_suffix_length_le h1 h2 (by decide)
  rw [← List.isSuffixOf_iff_suffix] at this
  exact absurd this (by decide)

theorem templOf_suffix (p : Path) : hasSuffix (templOf p) sufTempl = true := by
  rw [hasSuffix_iff]; exact List.suffix_append _ _

theorem targetOf_suffix (p : Path) : hasSuffix (targetOf p) sufTemplGo = true := by
  rw [hasSuffix_iff]; exact List.suffix_append _ _

theorem templOf_targetOf {e : Path} (h : hasSuffix e sufTempl = true) : templOf (targetOf e) = e := by
  rw [hasSuffix_iff] at h
  obtain ⟨t, rfl⟩ := h
  simp [templOf, targetOf, sufTempl, sufTemplGo]


theorem action_congr {fs fs' : Fs} (h : ∀ q, hasSuffix q sufTempl = true → Fs.get fs q = Fs.get fs' q) (p : Path) :
    action cfg genOf fs p = action cfg genOf fs' p := by
  unfold action
  rw [h _ (templOf_suffix p)]
  by_cases ht : hasSuffix p sufTempl = true
  · rw [h _ ht]
  · simp [ht]

theorem action_of_templ {fs : Fs} {e : Path} (ht : hasSuffix e sufTempl = true) :
    action cfg genOf fs e = match Fs.get fs e with
      | none => .nop
      | some src => match genOf e src with
        | some code => .write (targetOf e) code
        | none => .fail := by
  have hgo : hasSuffix e sufTemplGo = false := by
    cases hg : hasSuffix e sufTemplGo
    · rfl
    · exact (templ_not_templGo ht hg).elim
  unfold action
  simp only [hgo, ht]
  rfl

theorem action_of_go {fs : Fs} {p : Path} (hg : hasSuffix p sufTemplGo = true) :
    action cfg genOf fs p =
      if (Fs.get fs (templOf p)).isSome then .nop else if cfg.keepOrphaned then .nop else .remove p := by
  unfold action
  simp [hg]

/-- What the handler of `p` saw in `fs` when it decided on `a`. -/
def Decided (cfg : Cfg) (genOf : Path → Bytes → Option Bytes) (fs : Fs) (p : Path) : Act → Prop
  | .write q c => hasSuffix p sufTempl = true ∧ q = targetOf p ∧ ∃ src, Fs.get fs p = some src ∧ genOf p src = some c
  | .remove r => r = p ∧ hasSuffix p sufTemplGo = true ∧ Fs.get fs (templOf p) = none ∧ cfg.keepOrphaned = false
  | .fail => hasSuffix p sufTempl = true ∧ ∃ src, Fs.get fs p = some src ∧ genOf p src = none
  | .nop => True

theorem action_decided {fs : Fs} {p : Path} {a : Act} (h : action cfg genOf fs p = a) : Decided cfg genOf fs p a := by
  subst h
  by_cases hg : hasSuffix p sufTemplGo = true
  · rw [action_of_go hg]
    cases hs : Fs.get fs (templOf p) with
    | some _ => trivial
    | none =>
      cases hk : cfg.keepOrphaned with
      | true => trivial
      | false => exact ⟨rfl, hg, hs, hk⟩
  · by_cases ht : hasSuffix p sufTempl = true
    · rw [action_of_templ ht]
      cases hs : Fs.get fs p with
      | none => trivial
      | some src =>
        dsimp only
        cases hc : genOf p src with
        | none => exact ⟨ht, src, hs, hc⟩
        | some c => exact ⟨ht, rfl, src, hs, hc⟩
    · unfold action
      simp only [hg, ht]
      trivial

/-- What `a` writes at `q`, if it writes there. -/
def wr (a : Act) (q : Path) : Option Bytes :=
  match a with
  | .write q' c => if q' = q then some c else none
  | _ => none

/-- What the finished handlers `F` have written at `q`: only the handler of `templOf q` can. -/
def wpart (cfg : Cfg) (genOf : Path → Bytes → Option Bytes) (fs0 : Fs) (F : List Path) (q : Path) : Option Bytes :=
  if templOf q ∈ F then wr (action cfg genOf fs0 (templOf q)) q else none

/-- `q` has been removed: only its own handler can. -/
def rpart (cfg : Cfg) (genOf : Path → Bytes → Option Bytes) (fs0 : Fs) (F : List Path) (q : Path) : Bool :=
  decide (q ∈ F) && decide (action cfg genOf fs0 q = .remove q)

/-- The tree after the handlers `F` have acted, decided on `fs0`, path by path: written, removed, or as it was. -/
def eff (cfg : Cfg) (genOf : Path → Bytes → Option Bytes) (fs0 : Fs) (F : List Path) (q : Path) : Option Bytes :=
  match wpart cfg genOf fs0 F q with
  | some c => some c
  | none => if rpart cfg genOf fs0 F q then none else Fs.get fs0 q

theorem wr_eq_some {a : Act} {q : Path} {c : Bytes} : wr a q = some c ↔ a = .write q c := by
  cases a <;> simp [wr]

theorem wr_eq_none {a : Act} {q : Path} (h : ∀ c, a ≠ .write q c) : wr a q = none := by
  cases hw : wr a q with
  | none => rfl
  | some c => exact absurd (wr_eq_some.mp hw) (h c)

theorem findSome_unique {f : Path → Option Bytes} {w : Path} (h : ∀ e c, f e = some c → e = w) (L : List Path) :
    L.findSome? f = if w ∈ L then f w else none := by
  induction L with
  | nil => rfl
  | cons x xs ih =>
    rw [List.findSome?_cons, ih]
    by_cases hw : w = x
    · subst hw; cases f w <;> simp
    · have : f x = none := by
        cases hx : f x with
        | none => rfl
        | some c => exact absurd (h x c hx).symm hw
      simp [this, hw]

theorem eq_templOf_of_write {e p : Path} {c : Bytes} (h : action cfg genOf fs0 e = .write p c) : e = templOf p := by
  obtain ⟨ht, rfl, _⟩ := action_decided h
  exact (templOf_targetOf ht).symm

theorem spec_eq_eff (cfg : Cfg) (genOf : Path → Bytes → Option Bytes) (fs0 : Fs) (p : Path) :
    spec cfg genOf fs0 p = eff cfg genOf fs0 (eventsOf cfg fs0) p := by
  have key : (eventsOf cfg fs0).findSome? (fun e => wr (action cfg genOf fs0 e) p) = wpart cfg genOf fs0 (eventsOf cfg fs0) p :=
    findSome_unique (fun e c h => eq_templOf_of_write (wr_eq_some.mp h)) _
  unfold spec eff rpart
  rw [← key, List.contains_eq_mem]
  rfl

theorem eff_write {F : List Path} {p : Path} {c : Bytes} (hF : templOf p ∈ F)
    (h : action cfg genOf fs0 (templOf p) = .write p c) : eff cfg genOf fs0 F p = some c := by
  simp [eff, wpart, hF, h, wr]

theorem eff_remove {F : List Path} {p : Path} (h : action cfg genOf fs0 p = .remove p) :
    eff cfg genOf fs0 F p = if p ∈ F then none else Fs.get fs0 p := by
  have := action_of_templ (cfg := cfg) (genOf := genOf) (fs := fs0) (templOf_suffix p)
  rw [(action_decided h).2.2.1] at this
  simp [eff, wpart, rpart, h, this, wr]

theorem eff_other {F : List Path} {p : Path} (hw : templOf p ∈ F → ∀ c, action cfg genOf fs0 (templOf p) ≠ .write p c)
    (hr : p ∈ F → action cfg genOf fs0 p ≠ .remove p) : eff cfg genOf fs0 F p = Fs.get fs0 p := by
  have h1 : wpart cfg genOf fs0 F p = none := by
    unfold wpart
    split
    · exact wr_eq_none (hw ‹_›)
    · rfl
  have h2 : rpart cfg genOf fs0 F p = false := by
    simp only [rpart, Bool.and_eq_false_iff, decide_eq_false_iff_not]
    exact Classical.not_and_iff_not_or_not.mp fun ⟨a, b⟩ => hr a b
  simp [eff, h1, h2]

theorem eff_congr {F F' : List Path} (h : ∀ x, x ∈ F ↔ x ∈ F') (q : Path) :
    eff cfg genOf fs0 F q = eff cfg genOf fs0 F' q := by
  unfold eff wpart rpart
  simp only [h]

theorem eff_nil (q : Path) : eff cfg genOf fs0 [] q = Fs.get fs0 q :=
  eff_other nofun nofun

theorem eff_templ {F : List Path} {q : Path} (ht : hasSuffix q sufTempl = true) :
    eff cfg genOf fs0 F q = Fs.get fs0 q := by
  refine eff_other (fun _ c h => ?_) (fun _ h => templ_not_templGo ht (action_decided h).2.1)
  have := targetOf_suffix (templOf q)
  rw [← (action_decided h).2.1] at this
  exact templ_not_templGo ht this

theorem eff_cons_other {F : List Path} {p q : Path} (hw : ∀ c, action cfg genOf fs0 p ≠ .write q c)
    (hr : q = p → action cfg genOf fs0 p ≠ .remove p) : eff cfg genOf fs0 (p :: F) q = eff cfg genOf fs0 F q := by
  have h1 : wpart cfg genOf fs0 (p :: F) q = wpart cfg genOf fs0 F q := by
    unfold wpart
    by_cases hp : templOf q = p
    · simp [hp, wr_eq_none hw]
    · simp [hp]
  have h2 : rpart cfg genOf fs0 (p :: F) q = rpart cfg genOf fs0 F q := by
    unfold rpart
    by_cases hp : q = p
    · subst hp; simp [hr rfl]
    · simp [hp]
  rw [eff, h1, h2, ← eff]

theorem eff_cons {fs : Fs} {F : List Path} (p : Path) (hfs : ∀ q, Fs.get fs q = eff cfg genOf fs0 F q) (q : Path) :
    Fs.get (apply fs (action cfg genOf fs0 p)) q = eff cfg genOf fs0 (p :: F) q := by
  cases hA : action cfg genOf fs0 p with
  | nop | fail =>
    simp only [apply, hfs]
    exact (eff_cons_other (by simp [hA]) (by simp [hA])).symm
  | write q' c =>
    simp only [apply, get_put]
    split
    · subst ‹q = q'›
      have := eq_templOf_of_write hA
      subst this
      rw [eff_write (List.mem_cons_self ..) hA]
    · rename_i hq
      rw [hfs, eff_cons_other (by simp [hA, Ne.symm hq]) (by simp [hA])]
  | remove r =>
    obtain ⟨rfl, -⟩ := action_decided hA
    simp only [apply, get_del]
    split
    · subst ‹q = r›
      rw [eff_remove hA, if_pos (List.mem_cons_self ..)]
    · rename_i hq
      rw [hfs, eff_cons_other (by simp [hA]) (fun h => absurd h hq)]

/-- After any schedule: what a handler remembers is its decision on the start tree, and the tree is `eff` of the
    finished handlers. -/
structure Inv (cfg : Cfg) (genOf : Path → Bytes → Option Bytes) (fs0 : Fs) (s : State) : Prop where
  looked : ∀ p a, s.looked.lookup p = some a → a = action cfg genOf fs0 p
  nodup : s.finished.Nodup
  sub : ∀ p, p ∈ s.finished → p ∈ eventsOf cfg fs0
  fs : ∀ q, Fs.get s.fs q = eff cfg genOf fs0 s.finished q
  errs : s.errs = (s.finished.filter fun e => decide (action cfg genOf fs0 e = .fail)).length

theorem inv_init (cfg : Cfg) (genOf : Path → Bytes → Option Bytes) (fs0 : Fs) :
    Inv cfg genOf fs0 { fs := fs0 } where
  looked := nofun
  nodup := List.nodup_nil
  sub := nofun
  fs := fun q => (eff_nil q).symm
  errs := rfl

theorem inv_step {s : State} (p : Path) (h : Inv cfg genOf fs0 s) :
    Inv cfg genOf fs0 (step cfg genOf (eventsOf cfg fs0) s p) := by
  unfold step
  split
  · exact h
  · rename_i hc
    simp only [Bool.or_eq_true, Bool.not_eq_true', not_or, List.contains_eq_mem, decide_eq_true_eq,
      decide_eq_false_iff_not, Classical.not_not] at hc
    split
    · -- look: the handler sees the `.templ` files of the start
      refine ⟨fun p' a hl => ?_, h.nodup, h.sub, h.fs, h.errs⟩
      rw [Assoc.lookup_cons] at hl
      split at hl
      · cases hl
        subst ‹p' = p›
        exact action_congr (fun q hq => by rw [h.fs, eff_templ hq]) _
      · exact h.looked p' a hl
    · rename_i a hl
      -- act: on the decision it remembers, which is the one on the start tree
      cases h.looked p a hl
      refine ⟨h.looked, List.nodup_cons.mpr ⟨hc.2, h.nodup⟩, ?_, eff_cons p h.fs, ?_⟩
      · exact fun x hx => (List.mem_cons.mp hx).elim (· ▸ hc.1) (h.sub x)
      · rw [List.filter_cons, h.errs]
        split <;> simp [*]

theorem inv_run (cfg : Cfg) (genOf : Path → Bytes → Option Bytes) (fs0 : Fs) (sched : List Path) :
    Inv cfg genOf fs0 (run cfg genOf (eventsOf cfg fs0) fs0 sched) :=
  List.foldlRecOn sched _ (inv_init cfg genOf fs0) fun _ hs x _ => inv_step x hs

theorem length_filter_congr {α : Type} {l l' : List α} (hl : l.Nodup) (hl' : l'.Nodup) {f f' : α → Bool}
    (h : ∀ x, (x ∈ l ∧ f x = true) ↔ (x ∈ l' ∧ f' x = true)) : (l.filter f).length = (l'.filter f').length :=
  ((List.perm_ext_iff_of_nodup (hl.filter _) (hl'.filter _)).mpr (by simpa [List.mem_filter] using h)).length_eq

section
variable {events : List Path}

theorem step_mono {s : State} (p : Path) {e : Path} (h : e ∈ s.finished) :
    e ∈ (step cfg genOf events s p).finished := by
  unfold step
  split
  · exact h
  · split
    · exact h
    · exact List.mem_cons_of_mem _ h

theorem foldl_mono {L : List Path} {s : State} {e : Path} (h : e ∈ s.finished) :
    e ∈ (L.foldl (step cfg genOf events) s).finished := by
  induction L generalizing s with
  | nil => exact h
  | cons x xs ih => exact ih (step_mono x h)

theorem step_twice {s : State} {p : Path} (hp : p ∈ events) :
    p ∈ (step cfg genOf events (step cfg genOf events s p) p).finished := by
  by_cases hfin : p ∈ s.finished
  · exact step_mono _ (step_mono _ hfin)
  · cases hl : s.looked.lookup p <;> simp [step, hp, hfin, hl]

theorem seq_finishes {L : List Path} (hL : ∀ e ∈ L, e ∈ events) (s : State) :
    ∀ e ∈ L, e ∈ ((seqSched L).foldl (step cfg genOf events) s).finished := by
  induction L generalizing s with
  | nil => simp
  | cons x xs ih =>
    intro e he
    simp only [seqSched, List.flatMap_cons, List.cons_append, List.nil_append, List.foldl_cons]
    rcases List.mem_cons.mp he with rfl | he
    · exact foldl_mono (step_twice (hL e (List.mem_cons_self ..)))
    · exact ih (fun e h => hL e (List.mem_cons_of_mem _ h)) _ e he

end

theorem spec_idem {fs1 : Fs} (h1 : ∀ p, get fs1 p = spec cfg genOf fs0 p) :
    (∀ p, spec cfg genOf fs1 p = get fs1 p) ∧ failures cfg genOf fs1 = failures cfg genOf fs0 := by
  have hT : ∀ q, hasSuffix q sufTempl = true → Fs.get fs1 q = Fs.get fs0 q := by
    intro q hq; rw [h1, spec_eq_eff, eff_templ hq]
  have hA : ∀ p, action cfg genOf fs1 p = action cfg genOf fs0 p := action_congr hT
  have hE : ∀ q, hasSuffix q sufTempl = true → (q ∈ eventsOf cfg fs1 ↔ q ∈ eventsOf cfg fs0) := by
    intro q hq; rw [mem_eventsOf, mem_eventsOf, hT q hq]
  refine ⟨fun p => ?_, ?_⟩
  · rw [spec_eq_eff]
    by_cases hw : templOf p ∈ eventsOf cfg fs1 ∧ ∃ c, action cfg genOf fs1 (templOf p) = .write p c
    · -- written again: with what the first run wrote
      obtain ⟨hev, c, hc⟩ := hw
      rw [eff_write hev hc, h1, spec_eq_eff, eff_write ((hE _ (templOf_suffix p)).mp hev) (hA _ ▸ hc)]
    · refine eff_other (fun hev c hc => hw ⟨hev, c, hc⟩) (fun hev hr => ?_)
      -- an orphan of the second run was one of the first, which removed it
      obtain ⟨hs, hv⟩ := mem_eventsOf.mp hev
      rw [h1, spec_eq_eff, eff_remove (hA _ ▸ hr)] at hs
      split at hs
      · cases hs
      · exact absurd (mem_eventsOf.mpr ⟨hs, hv⟩) ‹_›
  · refine length_filter_congr nodup_eventsOf nodup_eventsOf (fun e => ?_)
    simp only [decide_eq_true_eq, hA]
    exact and_congr_left fun hf => hE e (action_decided hf).1

end TemplVerif.Proofs.Fs
