import TemplVerif.Model.Frame
import TemplVerif.Proofs.Bytes
/- C18 — call / response matching (conn.go): the invariant of the transition system `Rpc.step`. -/
namespace TemplVerif.Proofs.Rpc
open TemplVerif.Rpc

def recvId : Action → Option Nat
  | .recv r => some r.id
  | _ => none

/-- What `C18_match` says of an entry (thread, call id, result) of `completed`. -/
def Claim (c : Nat × Nat × Result) : Prop :=
  c.2.2 = .cancelled ∨ ∃ r, c.2.2 = .response r ∧ r.id = c.2.1

/-- The ids handed out are 1 … seq, each with exactly one call, finished or in flight; a thread has at most one call
    in flight; a slot or a result carries the id of its call. -/
structure Inv (s : State) : Prop where
  slot : ∀ p ∈ s.pending, ∀ r, p.slot = some r → r.id = p.id
  claim : ∀ c ∈ s.completed, Claim c
  ids : (s.completed.map (fun c => c.2.1) ++ s.pending.map (·.id)).Perm (List.range' 1 s.seq)
  threads : (s.pending.map (·.thread)).Nodup

theorem inv_init : Inv {} := ⟨nofun, nofun, .nil, .nil⟩

theorem perm_filter_thread {l : List Pending} {t : Nat} {p : Pending} (hn : (l.map (·.thread)).Nodup)
    (hf : l.find? (·.thread == t) = some p) : l.Perm (p :: l.filter (·.thread != t)) := by
  induction l with
  | nil => cases hf
  | cons x xs ih =>
    rw [List.map_cons, List.nodup_cons] at hn
    rw [List.find?_cons] at hf
    split at hf
    · rename_i hx
      cases hf
      have hx : p.thread = t := by simpa using hx
      have : xs.filter (·.thread != t) = xs :=
        List.filter_eq_self.2 fun a ha => by
          have : a.thread ≠ p.thread := fun h => hn.1 (List.mem_map.2 ⟨a, ha, h⟩)
          simpa [← hx] using this
      simp [hx, this]
    · rename_i hx
      simp only [List.filter_cons, hx, Bool.not_false, bne, if_true]
      exact ((ih hn.2 hf).cons x).trans (.swap ..)

theorem inv_finish {s : State} {t : Nat} {p : Pending} {res : Result} (hi : Inv s)
    (hf : s.pending.find? (·.thread == t) = some p) (hc : Claim (t, p.id, res)) :
    Inv { s with pending := s.pending.filter (·.thread != t), completed := s.completed ++ [(t, p.id, res)] } where
  slot q hq := hi.slot q (List.mem_filter.1 hq).1
  claim c hc' := by
    rcases List.mem_append.1 hc' with h | h
    · exact hi.claim c h
    · cases List.mem_singleton.1 h; exact hc
  ids := by
    refine .trans ?_ hi.ids
    rw [List.map_append, List.append_assoc]
    exact .append_left _ ((perm_filter_thread hi.threads hf).map Pending.id).symm
  threads := hi.threads.sublist (List.filter_sublist.map _)

theorem inv_map {s : State} (hi : Inv s) {g : Pending → Pending} (hid : ∀ q, (g q).id = q.id)
    (hth : ∀ q, (g q).thread = q.thread) (hslot : ∀ q ∈ s.pending, ∀ r, (g q).slot = some r → r.id = q.id) :
    Inv { s with pending := s.pending.map g } where
  slot q hq r hr := by
    obtain ⟨q0, hq0, rfl⟩ := List.mem_map.1 hq
    rw [hid]; exact hslot q0 hq0 r hr
  claim := hi.claim
  ids := by simpa [Function.comp_def, hid] using hi.ids
  threads := by simpa [Function.comp_def, hth] using hi.threads

theorem inv_step {s s' : State} {a : Action} (hi : Inv s) (hs : step s a = .ok s') : Inv s' := by
  cases a with
  | call t =>
    simp only [step] at hs
    split at hs
    · cases hs
    · rename_i hany
      cases hs
      refine ⟨?_, hi.claim, ?_, ?_⟩
      · intro q hq r hr
        rcases List.mem_append.1 hq with hq | hq
        · exact hi.slot q hq r hr
        · cases List.mem_singleton.1 hq; cases hr
      · rw [List.map_append, ← List.append_assoc, List.range'_1_concat, Nat.add_comm 1]
        exact hi.ids.append_right _
      · rw [List.map_append, List.nodup_append]
        refine ⟨hi.threads, List.pairwise_singleton _ _, fun a ha b hb h => ?_⟩
        obtain ⟨q, hq, rfl⟩ := List.mem_map.1 ha
        cases List.mem_singleton.1 hb
        exact hany (List.any_eq_true.2 ⟨q, hq, beq_iff_eq.2 h⟩)
  | recv r =>
    simp only [step] at hs
    split at hs
    · cases hs; exact hi
    · split at hs <;> cases hs
      · exact hi
      · refine inv_map hi (fun q => by split <;> rfl) (fun q => by split <;> rfl) fun q hq r' hr' => ?_
        split at hr'
        · rename_i hqr; cases hr'; exact (beq_iff_eq.1 hqr).symm
        · exact hi.slot q hq r' hr'
  | cancel t =>
    simp only [step] at hs
    split at hs <;> cases hs
    refine inv_map hi (fun q => by split <;> rfl) (fun q => by split <;> rfl) fun q hq r' hr' => ?_
    split at hr' <;> exact hi.slot q hq r' hr'
  | finishRecv t =>
    simp only [step] at hs
    split at hs
    · rename_i p hf  -- the entry `find?` returned for thread `t`
      split at hs <;> cases hs
      rename_i r hr  -- its slot holds `r`
      exact inv_finish hi hf (.inr ⟨r, rfl, hi.slot p (List.mem_of_find?_eq_some hf) r hr⟩)
    · cases hs
  | finishCancel t =>
    simp only [step] at hs
    split at hs
    · rename_i p hf  -- the entry `find?` returned for thread `t`
      split at hs <;> cases hs
      exact inv_finish hi hf (.inl rfl)
    · cases hs

theorem inv_run {sched : List Action} {s s' : State} (hi : Inv s) (h : run s sched = some s') : Inv s' := by
  induction sched generalizing s with
  | nil => cases h; exact hi
  | cons a rest ih =>
    simp only [run] at h
    split at h
    · exact ih (inv_step hi ‹_›) h
    · exact ih hi h
    · cases h

theorem step_not_blocked {s : State} {a : Action} : step s a ≠ .blocked := by
  cases a <;> simp only [step] <;> repeat' split
  all_goals exact nofun

end TemplVerif.Proofs.Rpc
