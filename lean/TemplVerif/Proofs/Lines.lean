import TemplVerif.Base.Bytes
import TemplVerif.Proofs.Bytes
/-
`splitLF` and `joinLF` are inverse bijections between byte strings and non-empty lists of LF-free lines; they carry
`++` of strings to `cat` of line lists.
-/
namespace TemplVerif

/-- The lines of `x ++ y` from those of `x` and of `y`: the last line of `x` runs on into the first line of `y`. -/
def cat : List Bytes → List Bytes → List Bytes
  | [], V => V
  | [u], V => (u ++ V.headD []) :: V.tail
  | u :: u' :: U, V => u :: cat (u' :: U) V

theorem cat_cons {U : List Bytes} (u : Bytes) (h : U ≠ []) (V : List Bytes) : cat (u :: U) V = u :: cat U V := by
  cases U with
  | nil => exact absurd rfl h
  | cons u' U => rfl

theorem cat_append (A : List Bytes) {U : List Bytes} (h : U ≠ []) (V : List Bytes) : cat (A ++ U) V = A ++ cat U V := by
  induction A with
  | nil => rfl
  | cons a A ih => rw [List.cons_append, cat_cons a (by simp [h]), ih, List.cons_append]

theorem cat_ne_nil {U : List Bytes} (h : U ≠ []) (V : List Bytes) : cat U V ≠ [] := by
  match U, h with
  | [u], _ => simp [cat]
  | u :: u' :: U, _ => simp [cat]

theorem cat_line_left {V : List Bytes} (h : V ≠ []) : cat [[]] V = V := by
  cases V with
  | nil => exact absurd rfl h
  | cons v V => rfl

theorem cat_line_right {U : List Bytes} (h : U ≠ []) : cat U [[]] = U := by
  induction U with
  | nil => exact absurd rfl h
  | cons u U ih =>
    cases U with
    | nil => simp [cat]
    | cons u' U => rw [cat_cons u (by simp), ih (by simp)]

theorem cat_assoc (U V W : List Bytes) : cat (cat U V) W = cat U (cat V W) := by
  induction U with
  | nil => rfl
  | cons u U ih =>
    cases U with
    | cons u' U =>
      have h := List.cons_ne_nil u' U
      rw [cat_cons u h, cat_cons u (cat_ne_nil h V), ih, cat_cons u h]
    | nil =>
      match V with
      | [] => simp [cat]
      | [v] => simp [cat]
      | v :: v' :: V => rfl

theorem joinLF_cons {ls : List Bytes} (l : Bytes) (h : ls ≠ []) : joinLF (l :: ls) = l ++ 10 :: joinLF ls := by
  cases ls with
  | nil => exact absurd rfl h
  | cons a as => rfl

theorem joinLF_append_head (x y : Bytes) (ls : List Bytes) : joinLF ((x ++ y) :: ls) = x ++ joinLF (y :: ls) := by
  cases ls <;> simp [joinLF]

theorem joinLF_cat {U V : List Bytes} (hU : U ≠ []) (hV : V ≠ []) : joinLF (cat U V) = joinLF U ++ joinLF V := by
  induction U with
  | nil => exact absurd rfl hU
  | cons u U ih =>
    cases U with
    | cons u' U =>
      have h := List.cons_ne_nil u' U
      rw [cat_cons u h, joinLF_cons u (cat_ne_nil h V), ih h, joinLF_cons u h, List.append_assoc]
      rfl
    | nil =>
      match V, hV with
      | [v], _ => rfl
      | v :: v' :: V, _ => exact List.append_assoc ..

theorem splitLF_cons (b : UInt8) (t : Bytes) :
    splitLF (b :: t) = if b = 10 then [] :: splitLF t else cat [[b]] (splitLF t) := by
  rw [splitLF]
  split
  · rfl
  · cases splitLF t <;> rfl

theorem splitLF_ne_nil (t : Bytes) : splitLF t ≠ [] := by
  cases t with
  | nil => simp [splitLF]
  | cons b t =>
    rw [splitLF_cons]
    split
    · simp
    · exact cat_ne_nil (by simp) _

theorem splitLF_append (x y : Bytes) : splitLF (x ++ y) = cat (splitLF x) (splitLF y) := by
  induction x with
  | nil => exact (cat_line_left (splitLF_ne_nil y)).symm
  | cons b x ih =>
    rw [List.cons_append, splitLF_cons, splitLF_cons, ih]
    split
    · rw [cat_cons _ (splitLF_ne_nil x)]
    · rw [cat_assoc]

theorem joinLF_splitLF (t : Bytes) : joinLF (splitLF t) = t := by
  induction t with
  | nil => rfl
  | cons b t ih =>
    rw [splitLF_cons]
    split
    · rw [joinLF_cons _ (splitLF_ne_nil t), ih]; simp [*]
    · rw [joinLF_cat (by simp) (splitLF_ne_nil t), ih]; rfl

theorem splitLF_noLF (t : Bytes) : ∀ l ∈ splitLF t, (10 : UInt8) ∉ l := by
  induction t with
  | nil => simp [splitLF]
  | cons b t ih =>
    rw [splitLF_cons]
    by_cases hb : b = 10
    · rw [if_pos hb]
      exact List.forall_mem_cons.mpr ⟨List.not_mem_nil, ih⟩
    · rw [if_neg hb]
      obtain ⟨v, V, h⟩ := List.exists_cons_of_ne_nil (splitLF_ne_nil t)
      rw [h] at ih ⊢
      obtain ⟨hv, hV⟩ := List.forall_mem_cons.mp ih
      exact List.forall_mem_cons.mpr ⟨by simpa [Ne.symm hb] using hv, hV⟩

theorem splitLF_of_noLF {l : Bytes} (h : (10 : UInt8) ∉ l) : splitLF l = [l] := by
  induction l with
  | nil => rfl
  | cons b l ih =>
    simp only [List.mem_cons, not_or] at h
    rw [splitLF_cons, if_neg (Ne.symm h.1), ih h.2]
    rfl

theorem splitLF_joinLF {d : List Bytes} (hne : d ≠ []) (hd : ∀ l ∈ d, (10 : UInt8) ∉ l) : splitLF (joinLF d) = d := by
  induction d with
  | nil => exact absurd rfl hne
  | cons l d ih =>
    simp only [List.forall_mem_cons] at hd
    cases d with
    | nil => exact splitLF_of_noLF hd.1
    | cons a as =>
      rw [joinLF_cons l (by simp), splitLF_append, splitLF_of_noLF hd.1, splitLF_cons, if_pos rfl, ih (by simp) hd.2]
      simp [cat]

end TemplVerif
