import TemplVerif.Model.Url
import TemplVerif.Proofs.Utf8
/- C04: what `templ.URL` returns unchanged has, for a browser, no scheme or an allowed one. -/
namespace TemplVerif.Proofs.Url
open TemplVerif TemplVerif.Url

/-! Byte arithmetic goes through `toNat`: the case maps as they act on numbers, then `omega`. -/

theorem toNat_lower (b : UInt8) :
    (Whatwg.lower b).toNat = if 65 ≤ b.toNat ∧ b.toNat ≤ 90 then b.toNat + 32 else b.toNat := by
  simp only [Whatwg.lower, Bool.and_eq_true, decide_eq_true_eq, UInt8.le_iff_toNat_le, apply_ite UInt8.toNat,
    UInt8.toNat_add, UInt8.toNat_ofNat]
  split
  · rename_i h
    exact Nat.mod_eq_of_lt (Nat.lt_of_le_of_lt (Nat.add_le_add_right h.2 32) (by decide))
  · rfl

theorem toNat_asciiLower (c : UInt8) :
    (asciiLower c).toNat = if 65 ≤ c.toNat ∧ c.toNat ≤ 90 then c.toNat + 32 else c.toNat := toNat_lower c

theorem toNat_asciiUpper (c : UInt8) :
    (asciiUpper c).toNat = if 97 ≤ c.toNat ∧ c.toNat ≤ 122 then c.toNat - 32 else c.toNat := by
  simp only [asciiUpper, Bool.and_eq_true, decide_eq_true_eq, UInt8.le_iff_toNat_le, apply_ite UInt8.toNat,
    UInt8.toNat_ofNat]
  split
  · rename_i h
    exact UInt8.toNat_sub_of_le _ _ (UInt8.le_iff_toNat_le.mpr (Nat.le_trans (by decide) h.1))
  · rfl

def isLowerLetter (c : UInt8) : Bool := 97 ≤ c && c ≤ 122

/-- The byte is the letter or the letter less 32: the two non-ASCII folds (U+017F, U+212A) are no bytes. -/
theorem runeFoldsTo_letter {b c : UInt8} (hc : isLowerLetter c = true)
    (h : runeFoldsTo b.toNat c = true) : Whatwg.isAlpha b = true ∧ Whatwg.lower b = c := by
  have hb := UInt8.toNat_lt b
  simp only [isLowerLetter, runeFoldsTo, Whatwg.isAlpha, Bool.or_eq_true, Bool.and_eq_true, beq_iff_eq,
    decide_eq_true_eq, UInt8.le_iff_toNat_le, ← UInt8.toNat_inj, toNat_lower, toNat_asciiUpper, toNat_asciiLower,
    UInt8.toNat_ofNat] at hc h ⊢
  rw [if_pos hc, if_neg (by omega)] at h
  have h' : b.toNat = c.toNat ∨ b.toNat + 32 = c.toNat := by
    rcases h with (((h | h) | h) | h) | h <;> omega
  rcases h' with h' | h'
  · rw [h', if_neg (by omega)]; exact ⟨.inr hc, rfl⟩
  · rw [if_pos (by omega)]; exact ⟨.inl (by omega), h'⟩

theorem not_c0_of_alpha {b : UInt8} (h : Whatwg.isAlpha b = true) : Whatwg.isC0OrSpace b = false := by
  simp only [Whatwg.isAlpha, Whatwg.isC0OrSpace, Bool.or_eq_true, Bool.and_eq_true, decide_eq_true_eq,
    decide_eq_false_iff_not, UInt8.le_iff_toNat_le, UInt8.toNat_ofNat] at h ⊢
  omega

theorem not_c0_of_gt {b : UInt8} (h1 : ¬ b < 32) (h2 : b ≠ 32) : Whatwg.isC0OrSpace b = false := by
  simp only [Whatwg.isC0OrSpace, decide_eq_false_iff_not, UInt8.not_le]
  exact UInt8.lt_of_le_of_ne (UInt8.not_lt.mp h1) (Ne.symm h2)

theorem c0_of_tabOrNewline {b : UInt8} (h : Whatwg.isTabOrNewline b = true) : Whatwg.isC0OrSpace b = true := by
  simp only [Whatwg.isTabOrNewline, Bool.or_eq_true, beq_iff_eq] at h
  rcases h with (rfl | rfl) | rfl <;> decide

theorem not_tab_of_not_c0 {b : UInt8} (h : Whatwg.isC0OrSpace b = false) : Whatwg.isTabOrNewline b = false :=
  Bool.eq_false_iff.mpr fun ht => Bool.false_ne_true (h.symm.trans (c0_of_tabOrNewline ht))

theorem schemeChar_of_alpha {b : UInt8} (h : Whatwg.isAlpha b = true) : Whatwg.isSchemeChar b = true := by
  rw [Whatwg.isSchemeChar, h]; rfl

theorem schemeChar_ne_hash {b : UInt8} (h : Whatwg.isSchemeChar b = true) : b ≠ 35 :=
  fun e => by rw [e] at h; exact absurd h (by decide)

theorem lower_lt_of_schemeChar {b : UInt8} (h : Whatwg.isSchemeChar b = true) : Whatwg.lower b < 0x80 := by
  simp only [Whatwg.isSchemeChar, Whatwg.isAlpha, Bool.or_eq_true, Bool.and_eq_true, beq_iff_eq,
    decide_eq_true_eq, UInt8.le_iff_toNat_le, UInt8.lt_iff_toNat_lt, ← UInt8.toNat_inj, UInt8.toNat_ofNat,
    toNat_lower] at h ⊢
  split <;> omega

theorem lower_lower (b : UInt8) : Whatwg.lower (Whatwg.lower b) = Whatwg.lower b := by
  simp only [← UInt8.toNat_inj, toNat_lower]
  by_cases h : 65 ≤ b.toNat ∧ b.toNat ≤ 90
  · rw [if_pos h, if_neg (by omega)]
  · rw [if_neg h, if_neg h]

theorem indexOf_eq_none_iff {c : UInt8} {s : Bytes} : indexOf c s = none ↔ c ∉ s := by
  induction s with
  | nil => simp [indexOf]
  | cons b rest ih =>
    by_cases h : b = c
    · simp [indexOf, h]
    · simp [indexOf, h, ih, Ne.symm h]

theorem indexOf_some {c : UInt8} {s : Bytes} {i : Nat} (h : indexOf c s = some i) :
    ∃ rest, s = s.take i ++ c :: rest ∧ c ∉ s.take i := by
  induction s generalizing i with
  | nil => simp [indexOf] at h
  | cons b rest ih =>
    simp only [indexOf] at h
    split at h
    · rename_i hbc
      cases h
      exact ⟨rest, by simp [hbc], by simp⟩
    · rename_i hbc
      simp only [Option.map_eq_some_iff] at h
      obtain ⟨j, hj, rfl⟩ := h
      obtain ⟨r, hr1, hr2⟩ := ih hj
      refine ⟨r, ?_, ?_⟩
      · simp only [List.take_succ_cons, List.cons_append]
        rw [← hr1]
      · simp only [List.take_succ_cons, List.mem_cons, not_or]
        exact ⟨fun e => hbc e.symm, hr2⟩

theorem indexOf_isSome {c : UInt8} {s : Bytes} (h : (indexOf c s).isSome = true) : c ∈ s :=
  Decidable.by_contra fun hn => by simp [indexOf_eq_none_iff.mpr hn] at h

theorem trim_spec (p : UInt8 → Bool) (f : Bytes) :
    ∃ b, f = f.takeWhile p ++ ((f.dropWhile p).reverse.dropWhile p).reverse ++ b ∧ b.all p = true := by
  refine ⟨((f.dropWhile p).reverse.takeWhile p).reverse, ?_, by rw [List.all_reverse]; exact List.all_takeWhile⟩
  rw [List.append_assoc, ← List.reverse_append, List.takeWhile_append_dropWhile, List.reverse_reverse,
    List.takeWhile_append_dropWhile]

theorem dropWhile_append_cons {p : UInt8 → Bool} (x : Bytes) {c : UInt8} (y : Bytes) (hc : p c = false) :
    (x ++ c :: y).dropWhile p = x.dropWhile p ++ c :: y := by
  induction x with
  | nil => simp [hc]
  | cons a x ih => by_cases ha : p a = true <;> simp [ha, ih]

theorem preprocess_append_cons (x : Bytes) {c : UInt8} (y : Bytes) (hc : Whatwg.isC0OrSpace c = false) :
    Whatwg.preprocess (x ++ c :: y) =
      (x.dropWhile Whatwg.isC0OrSpace).filter (fun b => !Whatwg.isTabOrNewline b) ++
        c :: ((y.reverse.dropWhile Whatwg.isC0OrSpace).reverse).filter (fun b => !Whatwg.isTabOrNewline b) := by
  simp only [Whatwg.preprocess, dropWhile_append_cons _ _ hc, List.reverse_append, List.reverse_cons,
    List.append_assoc, List.singleton_append]
  simp [not_tab_of_not_c0 hc]

theorem mem_preprocess {b : UInt8} {s : Bytes} (h : b ∈ Whatwg.preprocess s) : b ∈ s := by
  simp only [Whatwg.preprocess, List.mem_filter, List.mem_reverse] at h
  exact (List.dropWhile_sublist _).mem ((List.dropWhile_sublist _).mem h.1 |> List.mem_reverse.mp)

theorem preprocess_prefix (u : Bytes) (hhead : ∀ a l, u = a :: l → Whatwg.isC0OrSpace a = false)
    (htn : ∀ b ∈ u, Whatwg.isTabOrNewline b = false) :
    ∃ t, u = Whatwg.preprocess u ++ t ∧ t.all Whatwg.isC0OrSpace = true := by
  obtain ⟨t, e, ht⟩ := trim_spec Whatwg.isC0OrSpace u
  have e1 : u.takeWhile Whatwg.isC0OrSpace = [] := by
    cases u with
    | nil => rfl
    | cons a l => simp [hhead a l rfl]
  rw [e1, List.nil_append] at e
  refine ⟨t, ?_, ht⟩
  rw [Whatwg.preprocess, List.filter_eq_self.mpr]
  · exact e
  · intro b hb
    simp [htn b (by rw [e]; exact List.mem_append_left _ hb)]

theorem schemeState_eq_some_iff {l acc sc : Bytes} : Whatwg.schemeState acc l = some sc ↔
    ∃ x y, l = x ++ 58 :: y ∧ x.all Whatwg.isSchemeChar = true ∧ sc = acc ++ x.map Whatwg.lower := by
  constructor
  · induction l generalizing acc with
    | nil => simp [Whatwg.schemeState]
    | cons b rest ih =>
      intro h
      simp only [Whatwg.schemeState] at h
      split at h
      · rename_i hb
        obtain ⟨x, y, e, hx, hsc⟩ := ih h
        exact ⟨b :: x, y, by simp [e], by simp [hb, hx], by simp [hsc]⟩
      · split at h
        · rename_i hb
          exact ⟨[], rest, by simp [beq_iff_eq.mp hb], rfl, by simp [← Option.some.inj h]⟩
        · cases h
  · rintro ⟨x, y, rfl, hx, rfl⟩
    induction x generalizing acc with
    | nil => simp [Whatwg.schemeState, Whatwg.isSchemeChar, Whatwg.isAlpha]
    | cons a x ih =>
      simp only [List.all_cons, Bool.and_eq_true] at hx
      simp [Whatwg.schemeState, hx.1, ih hx.2]

theorem scheme_eq_some_iff {s sc : Bytes} : Whatwg.scheme s = some sc ↔
    ∃ a x y, Whatwg.preprocess s = a :: x ++ 58 :: y ∧ Whatwg.isAlpha a = true ∧
      x.all Whatwg.isSchemeChar = true ∧ sc = (a :: x).map Whatwg.lower := by
  unfold Whatwg.scheme
  cases Whatwg.preprocess s with
  | nil => simp
  | cons a l =>
    by_cases ha : Whatwg.isAlpha a = true
    · simp only [ha, if_true, schemeState_eq_some_iff, List.cons_append, List.cons.injEq, List.map_cons]
      constructor
      · rintro ⟨x, y, rfl, hx, rfl⟩; exact ⟨a, x, y, ⟨rfl, rfl⟩, ha, hx, rfl⟩
      · rintro ⟨_, x, y, ⟨rfl, rfl⟩, _, hx, rfl⟩; exact ⟨x, y, rfl, hx, rfl⟩
    · simp only [ha, if_false, Bool.false_eq_true, reduceCtorEq, false_iff]
      rintro ⟨_, x, y, h, ha', _⟩
      simp only [List.cons_append, List.cons.injEq] at h
      exact ha (h.1 ▸ ha')

/-- A byte that survives preprocessing and stops the scheme state without being ':'. -/
def isBad (b : UInt8) : Bool := !Whatwg.isC0OrSpace b && !Whatwg.isSchemeChar b && b != 58

theorem isBad_of_nonascii (b : UInt8) (h : 0x80 ≤ b) : isBad b = true := by
  simp only [isBad, Whatwg.isC0OrSpace, Whatwg.isSchemeChar, Whatwg.isAlpha, Bool.and_eq_true,
    Bool.not_eq_true', decide_eq_false_iff_not, Bool.or_eq_false_iff, Bool.and_eq_false_iff,
    bne_iff_ne, beq_eq_false_iff_ne, UInt8.le_iff_toNat_le, ne_eq, ← UInt8.toNat_inj, UInt8.toNat_ofNat] at h ⊢
  omega

theorem scheme_none_of_no_colon (s : Bytes) (h : (58 : UInt8) ∉ s) : Whatwg.scheme s = none :=
  Option.eq_none_iff_forall_ne_some.mpr fun sc hs => by
    obtain ⟨a, x, y, e, _⟩ := scheme_eq_some_iff.mp hs
    exact h (mem_preprocess (by simp [e]))

/-- The scheme characters the browser reads cannot reach the `:` past such a byte. -/
theorem scheme_none_of_bad (pre rest : Bytes) (hni : (58 : UInt8) ∉ pre) (b : UInt8) (hb : b ∈ pre)
    (hbad : isBad b = true) : Whatwg.scheme (pre ++ 58 :: rest) = none :=
  Option.eq_none_iff_forall_ne_some.mpr fun sc hs => by
    obtain ⟨u, v, rfl⟩ := List.append_of_mem hb
    simp only [isBad, Bool.and_eq_true, Bool.not_eq_true', bne_iff_ne] at hbad
    obtain ⟨a, x, y, e, ha, hx, _⟩ := scheme_eq_some_iff.mp hs
    have hall : ∀ c ∈ a :: x, Whatwg.isSchemeChar c = true :=
      List.forall_mem_cons.mpr ⟨schemeChar_of_alpha ha, List.all_eq_true.mp hx⟩
    rw [List.append_assoc, List.cons_append, preprocess_append_cons _ _ hbad.1.1] at e
    have hu : (58 : UInt8) ∉ (u.dropWhile Whatwg.isC0OrSpace).filter fun b => !Whatwg.isTabOrNewline b :=
      fun hm => hni (by simp [(List.dropWhile_sublist _).mem (List.mem_filter.mp hm).1])
    rcases List.append_eq_append_iff.mp e with ⟨m, e1, e2⟩ | ⟨m, e1, e2⟩
    · cases m with
      | nil => exact hbad.2 (List.head_eq_of_cons_eq e2)
      | cons c m =>
        rw [List.cons_append, List.cons.injEq] at e2
        have := hall b (by rw [e1, e2.1]; simp)
        simp [hbad.1.2] at this
    · cases m with
      | nil => exact hbad.2 (List.head_eq_of_cons_eq e2).symm
      | cons c m =>
        rw [List.cons_append, List.cons.injEq] at e2
        exact hu (by rw [e1, ← e2.1]; simp)

theorem scheme_of_alpha (pre rest : Bytes) (hne : pre ≠ []) (hp : pre.all Whatwg.isAlpha = true) :
    Whatwg.scheme (pre ++ 58 :: rest) = some (pre.map Whatwg.lower) := by
  have hp := List.all_eq_true.mp hp
  have e : (pre.dropWhile Whatwg.isC0OrSpace).filter (fun b => !Whatwg.isTabOrNewline b) = pre := by
    rw [List.filter_eq_self.mpr fun b hb => by
      simp [not_tab_of_not_c0 (not_c0_of_alpha (hp b ((List.dropWhile_sublist _).mem hb)))]]
    cases pre with
    | nil => rfl
    | cons a p => simp [not_c0_of_alpha (hp a (by simp))]
  cases pre with
  | nil => exact absurd rfl hne
  | cons a p =>
    have := preprocess_append_cons (a :: p) (c := 58) rest (by decide)
    rw [e] at this
    exact scheme_eq_some_iff.mpr ⟨a, p, _, this, hp a (by simp),
      List.all_eq_true.mpr fun z hz => schemeChar_of_alpha (hp z (List.mem_cons_of_mem _ hz)), rfl⟩

theorem equalFoldAux_letters {t : Bytes} (ht : t.all isLowerLetter = true) {fuel : Nat} {pre : Bytes}
    (h : equalFoldAux fuel pre t = true) :
    (∃ b ∈ pre, (0x80 : UInt8) ≤ b) ∨ (pre.all Whatwg.isAlpha = true ∧ pre.map Whatwg.lower = t) := by
  induction t generalizing fuel pre with
  | nil =>
    cases pre with
    | nil => right; simp
    | cons b pre => simp [equalFoldAux] at h
  | cons c t ih =>
    simp only [List.all_cons, Bool.and_eq_true] at ht
    cases pre with
    | nil => simp [equalFoldAux] at h
    | cons b pre =>
      cases fuel with
      | zero => simp [equalFoldAux] at h
      | succ fuel =>
        by_cases hb : b < 0x80
        · simp only [equalFoldAux, Utf8.decodeRune_ascii b pre hb, Bool.and_eq_true] at h
          have h2 : equalFoldAux fuel pre t = true := by simpa using h.2
          obtain ⟨f1, f2⟩ := runeFoldsTo_letter ht.1 h.1
          rcases ih ht.2 h2 with ⟨z, hz, hz'⟩ | ⟨g1, g2⟩
          · exact Or.inl ⟨z, List.mem_cons_of_mem _ hz, hz'⟩
          · right; simp [f1, f2, g1, g2]
        · left
          exact ⟨b, by simp, UInt8.not_lt.mp hb⟩

theorem schemes_lower : ∀ t ∈ Generated.urlSchemes, t.all isLowerLetter = true ∧ t ≠ [] := by
  decide

end TemplVerif.Proofs.Url
