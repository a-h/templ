import TemplVerif.Model.Frame
import TemplVerif.Proofs.Utf8
/- C18 — what `stream.Write` writes, `stream.Read` reads back: decimal numbers, one header line, one frame, a sequence
of frames. -/
namespace TemplVerif.Proofs.Frame
open TemplVerif TemplVerif.Frame

/-- The byte test of `trimRightAscii`. -/
def isWs (b : UInt8) : Bool := b == 32 || (9 ≤ b && b ≤ 13)

/-- A byte that trimming leaves alone and that ends no line (ASCII, no space rune, no `isWs`, no LF): what header
    names and values are made of. -/
abbrev Tok (b : UInt8) : Prop := b < 0x80 ∧ isSpaceRune b.toNat = false ∧ isWs b = false ∧ b ≠ 10

/-- The ten digit bytes, all that `decimal` writes: facts about them are a table. -/
def digits : Bytes := [48, 49, 50, 51, 52, 53, 54, 55, 56, 57]

theorem digit_spec (n : Nat) : (48 + n % 10).toUInt8 ∈ digits ∧ ((48 + n % 10).toUInt8).toNat - 48 = n % 10 :=
  (by decide : ∀ k < 10, (48 + k).toUInt8 ∈ digits ∧ ((48 + k).toUInt8).toNat - 48 = k) _ (Nat.mod_lt _ (by decide))

theorem digits_facts : ∀ b ∈ digits, (48 ≤ b && b ≤ 57) = true ∧ Tok b ∧ b ≠ 45 ∧ b ≠ 43 := by decide

theorem digitsAux_append (fuel n : Nat) (acc : Bytes) :
    digitsAux fuel n acc = digitsAux fuel n [] ++ acc := by
  induction fuel generalizing n acc with
  | zero => simp [digitsAux]
  | succ f ih =>
    simp only [digitsAux]
    split
    · simp
    · rw [ih, ih (n / 10) [_]]; simp

/-- The step of the fold in `parseDigits`. -/
def pstep (acc : Nat) (b : UInt8) : Option Nat :=
  if 48 ≤ b && b ≤ 57 then some (acc * 10 + (b.toNat - 48)) else none

theorem foldlM_pstep_concat (l : Bytes) (d : UInt8) (a : Nat) :
    (l ++ [d]).foldlM pstep a = (l.foldlM pstep a).bind (pstep · d) := by
  rw [List.foldlM_append]; cases List.foldlM pstep a l <;> simp

theorem digitsAux_spec {fuel : Nat} (n : Nat) (hf : n < fuel) :
    (∀ b ∈ digitsAux fuel n [], b ∈ digits) ∧ (digitsAux fuel n []).foldlM pstep 0 = some n := by
  induction fuel generalizing n with
  | zero => exact absurd hf (Nat.not_lt_zero _)
  | succ f ih =>
    obtain ⟨hd, hn⟩ := digit_spec n
    have hp : ∀ a, pstep a (48 + n % 10).toUInt8 = some (a * 10 + n % 10) := fun a => by
      rw [pstep, if_pos (digits_facts _ hd).1, hn]
    rw [digitsAux]
    split
    · rename_i h0
      refine ⟨fun b hb => List.mem_singleton.1 hb ▸ hd, (foldlM_pstep_concat [] _ 0).trans ?_⟩
      rw [List.foldlM_nil]
      refine (hp 0).trans ?_
      rw [Nat.zero_mul, Nat.zero_add, Nat.mod_eq_of_lt (Nat.div_eq_zero_iff_lt (by decide) |>.1 h0)]
    · rename_i h0
      have hpos : 0 < n := Nat.pos_of_ne_zero fun h => h0 (h ▸ Nat.zero_div 10)
      obtain ⟨h1, h2⟩ := ih (n / 10) (Nat.lt_of_lt_of_le (Nat.div_lt_self hpos (by decide)) (Nat.le_of_lt_succ hf))
      rw [digitsAux_append, foldlM_pstep_concat, h2]
      exact ⟨fun b hb => (List.mem_append.1 hb).elim (h1 b) fun h => List.mem_singleton.1 h ▸ hd,
        (hp _).trans (congrArg some (Nat.div_add_mod' n 10))⟩

theorem decimal_digits (n : Nat) : ∀ b ∈ decimal n, b ∈ digits := (digitsAux_spec n (Nat.lt_succ_self n)).1

theorem decimal_ne_nil (n : Nat) : decimal n ≠ [] := by
  unfold decimal digitsAux
  split
  · simp
  · rw [digitsAux_append]; simp

theorem parseInt32_decimal (n : Nat) (h : n ≤ 2147483647) : parseInt32 (decimal n) = some (n : Int) := by
  have hp : parseDigits (decimal n) = some n := by
    have hne := decimal_ne_nil n
    unfold parseDigits
    split
    · contradiction
    · exact (digitsAux_spec n (Nat.lt_succ_self n)).2
  have hdig := decimal_digits n
  unfold parseInt32
  split
  · exact absurd rfl (digits_facts _ (hdig 45 (by simp [*]))).2.2.1
  · exact absurd rfl (digits_facts _ (hdig 43 (by simp [*]))).2.2.2
  · rw [hp]; simp [h]

theorem readLine_append (l r : Bytes) (h : ∀ b ∈ l, b ≠ 10) : readLine (l ++ 10 :: r) = some (l ++ [10], r) := by
  induction l with
  | nil => simp [readLine]
  | cons b t ih =>
    have hb : b ≠ 10 := h b List.mem_cons_self
    have := ih (fun x hx => h x (List.mem_cons_of_mem _ hx))
    simp [readLine, hb, this]

theorem trimLeftAux_ascii {fuel : Nat} {b : UInt8} {t : Bytes} (h : b < 0x80) :
    trimLeftAux (fuel + 1) (b :: t) = if isSpaceRune b.toNat then trimLeftAux fuel t else b :: t := by
  rw [trimLeftAux, Proofs.Utf8.decodeRune_ascii b t h]; rfl

theorem trimRightAscii_append {xs ws : Bytes} (hne : xs ≠ []) (hl : isWs (xs.getLast hne) = false)
    (hw : ∀ b ∈ ws, isWs b = true) : trimRightAscii (xs ++ ws) = xs := by
  unfold trimRightAscii
  change ((xs ++ ws).reverse.dropWhile isWs).reverse = xs
  rw [List.reverse_append, List.dropWhile_append_of_pos (by simpa using hw)]
  conv => lhs; rw [← List.dropLast_concat_getLast hne]
  rw [List.reverse_append, List.reverse_singleton, List.singleton_append, List.dropWhile_cons_of_neg (by simp [hl])]
  simp [List.dropLast_concat_getLast]

theorem trimSpace_tok (l : Bytes) (hl : ∀ b ∈ l, b < 0x80 ∧ isSpaceRune b.toNat = true) {core : Bytes} (ws : Bytes)
    (hc : core ≠ []) (hfirst : Tok (core.head hc)) (hlast : isWs (core.getLast hc) = false)
    (hw : ∀ b ∈ ws, isWs b = true) : trimSpace (l ++ core ++ ws) = core := by
  have : ∀ fuel, l.length ≤ fuel → trimLeftAux fuel (l ++ core ++ ws) = core ++ ws := by
    induction l with
    | nil =>
      intro fuel _
      obtain ⟨b, t, rfl⟩ := List.exists_cons_of_ne_nil hc
      cases fuel with
      | zero => rfl
      | succ f =>
        have hfirst : Tok b := hfirst
        rw [List.nil_append, List.cons_append, trimLeftAux_ascii hfirst.1, hfirst.2.1]; rfl
    | cons x xs ih =>
      intro fuel hf
      obtain ⟨f, rfl⟩ := Nat.exists_eq_add_of_le' (Nat.lt_of_lt_of_le (Nat.succ_pos _) hf)
      have hx := hl x List.mem_cons_self
      rw [List.cons_append, List.cons_append, trimLeftAux_ascii hx.1, hx.2, if_pos rfl]
      exact ih (fun b hb => hl b (List.mem_cons_of_mem _ hb)) f (Nat.le_of_succ_le_succ hf)
  rw [trimSpace, this _ (by simp)]
  exact trimRightAscii_append hc hlast hw

theorem indexOfColon_append {name : Bytes} (rest : Bytes) (h : ∀ b ∈ name, b ≠ 58) :
    indexOfColon (name ++ 58 :: rest) = some name.length := by
  induction name with
  | nil => simp [indexOfColon]
  | cons b t ih => simp [indexOfColon, h b List.mem_cons_self, ih fun x hx => h x (List.mem_cons_of_mem _ hx)]

theorem readHeaders_line (f len : Nat) (name val rest : Bytes) (hv : val ≠ [])
    (hname : ∀ b ∈ name, Tok b ∧ b ≠ 58) (hval : ∀ b ∈ val, Tok b) :
    readHeaders (f + 1) len (name ++ 58 :: 32 :: val ++ 13 :: 10 :: rest) =
      if name == hdrContentLength then
        match parseInt32 val with
        | none => .error .badLength
        | some n => if n ≤ 0 then .error .nonPositiveLength else readHeaders f n.toNat rest
      else readHeaders f len rest := by
  have hlast : isWs (val.getLast hv) = false := (hval _ (List.getLast_mem _)).2.2.1
  have hline : readLine (name ++ 58 :: 32 :: val ++ 13 :: 10 :: rest)
      = some ((name ++ 58 :: 32 :: val) ++ [13, 10], rest) := by
    have := readLine_append (name ++ 58 :: 32 :: val ++ [13]) rest fun b hb => by
      simp only [List.mem_append, List.mem_cons, List.not_mem_nil, or_false] at hb
      rcases hb with (hb | rfl | rfl | hb) | rfl
      · exact (hname b hb).1.2.2.2
      · decide
      · decide
      · exact (hval b hb).2.2.2
      · decide
    simpa using this
  have htrim : trimSpace ((name ++ 58 :: 32 :: val) ++ [13, 10]) = name ++ 58 :: 32 :: val :=
    trimSpace_tok [] nofun _ (by simp)
      (by cases name with | nil => exact (by decide : Tok 58) | cons n ns => exact (hname n List.mem_cons_self).1)
      (by simpa [List.getLast_append_of_ne_nil, List.getLast_cons, hv] using hlast) (by decide)
  have hvalue : trimSpace (32 :: val) = val :=
    (congrArg trimSpace (List.append_nil _).symm).trans
      (trimSpace_tok [32] (by decide) [] hv (hval _ (List.head_mem hv)) hlast nofun)
  rw [readHeaders, hline]
  have hemp : (name ++ 58 :: 32 :: val).isEmpty = false := by cases name <;> rfl
  have hdrop : (name ++ 58 :: 32 :: val).drop (name.length + 1) = 32 :: val := by
    rw [← List.drop_drop, List.drop_left]; rfl
  simp only [htrim, hemp, indexOfColon_append _ fun b hb => (hname b hb).2, List.take_left', hdrop, hvalue,
    Bool.false_eq_true, if_false]
  rfl

theorem readHeaders_blank (f len : Nat) (rest : Bytes) : readHeaders (f + 1) len (13 :: 10 :: rest) = .ok (len, rest) := by
  simp [readHeaders, readLine, show trimSpace [13, 10] = [] by decide]

theorem readHeaders_encode (f n : Nat) (h0 : 0 < n) (h1 : n ≤ 2147483647) (tail : Bytes) :
    readHeaders (f + 2) 0 (hdrContentLength ++ [58, 32] ++ decimal n ++ crlfcrlf ++ tail) = .ok (n, tail) := by
  have := readHeaders_line (f + 1) 0 hdrContentLength (decimal n) (13 :: 10 :: tail) (decimal_ne_nil n)
    (by decide) fun b hb => (digits_facts b (decimal_digits n b hb)).2.1
  simp only [List.append_assoc, List.cons_append, List.nil_append, crlfcrlf] at this ⊢
  rw [this, if_pos (beq_self_eq_true _), parseInt32_decimal n h1]
  simp only
  rw [if_neg (Int.not_le.2 (Int.natCast_pos.2 h0)), Int.toNat_natCast, readHeaders_blank]

theorem encode_length_pos (body : Bytes) : 0 < (encode body).length :=
  List.length_pos_iff.2 nofun

theorem readFrame_encode {body : Bytes} (rest : Bytes) (h0 : 0 < body.length) (h1 : body.length < 2147483648) :
    readFrame (encode body ++ rest) = .ok (body, rest) := by
  have hpos : 0 < (encode body ++ rest).length :=
    Nat.lt_of_lt_of_le (encode_length_pos body) (by rw [List.length_append]; exact Nat.le_add_right _ _)
  obtain ⟨f, hf⟩ := Nat.exists_eq_add_of_le' hpos
  have : encode body ++ rest = hdrContentLength ++ [58, 32] ++ decimal body.length ++ crlfcrlf ++ (body ++ rest) :=
    List.append_assoc _ body rest
  rw [readFrame, hf, this, readHeaders_encode f body.length h0 (Nat.le_of_lt_succ h1)]
  simp [beq_eq_false_iff_ne.2 (Nat.ne_of_gt h0)]

theorem readAllAux_ne_nil (f : Nat) {s : Bytes} (h : s ≠ []) :
    readAllAux (f + 1) s = match readFrame s with
      | .error e => ([], some e)
      | .ok (body, rest) =>
        if rest.length < s.length then
          let (bs, e) := readAllAux f rest
          (body :: bs, e)
        else ([body], none) := by
  cases s with
  | nil => exact absurd rfl h
  | cons b t => rfl

theorem readAllAux_encode (bodies : List Bytes) (h : ∀ b ∈ bodies, 0 < b.length ∧ b.length < 2147483648) :
    ∀ fuel, (bodies.flatMap encode).length < fuel → readAllAux fuel (bodies.flatMap encode) = (bodies, none) := by
  induction bodies with
  | nil => intro fuel _; cases fuel <;> simp [readAllAux]
  | cons b bs ih =>
    intro fuel hf
    have hb := h b List.mem_cons_self
    have hpos := encode_length_pos b
    rw [List.flatMap_cons] at hf ⊢
    rw [List.length_append] at hf
    cases fuel with
    | zero => exact absurd hf (Nat.not_lt_zero _)
    | succ f =>
      rw [readAllAux_ne_nil _ (List.append_ne_nil_of_left_ne_nil (List.length_pos_iff.1 hpos) _),
        readFrame_encode _ hb.1 hb.2]
      simp only
      rw [if_pos (by rw [List.length_append]; exact Nat.lt_add_of_pos_left hpos),
        ih (fun x hx => h x (List.mem_cons_of_mem _ hx)) f
          (Nat.lt_of_lt_of_le (Nat.lt_add_of_pos_left hpos) (Nat.le_of_lt_succ hf))]

theorem readAll_encode {bodies : List Bytes} (h : ∀ b ∈ bodies, 0 < b.length ∧ b.length < 2147483648) :
    readAll (bodies.flatMap encode) = (bodies, none) :=
  readAllAux_encode bodies h _ (Nat.lt_succ_self _)

end TemplVerif.Proofs.Frame
