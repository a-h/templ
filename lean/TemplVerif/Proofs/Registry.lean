import TemplVerif.Model.Registry
import TemplVerif.Proofs.LastWins
import TemplVerif.Proofs.Fresh
/-
C12 — one argument for the three registries (scripts, classes, once handles). Each call registers the names it is given and
has not seen (`fresh`) and emits one definition event for them, then the uses (`out`). Read for ONE name, the events of a
context are the run of a two-state machine, unregistered / registered (`Tr`); "at most once", "never for a registered
name" and "definition before use" are read off that run (`Tr.once`, `Tr.before`).
-/
namespace TemplVerif.Proofs.Registry
open TemplVerif.Registry

def isScriptDefOf (n : Nat) : Event → Bool
  | .scriptDef ns => ns.contains n
  | _ => false

def isStyleDefOf (id : Nat) : Event → Bool
  | .styleDef ids => ids.contains id
  | _ => false

/-- The step of the fold in `Registry.renderScriptItems` (an anonymous function there): a script name not yet registered
    is registered and noted as new. -/
def sf (acc : Ctx × List Nat) (n : Nat) : Ctx × List Nat :=
  if acc.1.scripts.contains n then acc else ({ acc.1 with scripts := acc.1.scripts ++ [n] }, acc.2 ++ [n])

theorem renderScriptItems_eq (c : Ctx) (names : List Nat) :
    renderScriptItems c names = ((names.foldl sf (c, [])).1,
      if (names.foldl sf (c, [])).2.isEmpty then [] else [.scriptDef (names.foldl sf (c, [])).2]) := rfl

/-- The same step for the id of a CSS component: `Registry.cssComp` with its arguments in the order of a fold. -/
def cf (a : Ctx × List Nat) (id : Nat) : Ctx × List Nat := cssComp id a

mutual
  def compIds : ClassItem → List Nat
    | .comp id => [id]
    | .kvComp id on => if on then [id] else []
    | .kvIface id on => if on then [id] else []
    | .classes items => compIdsList items
    | .slice ids => ids
    | .kvSlice id on id2 => (if on then [id] else []) ++ [id2]
    | .fn id => [id]
    | .const _ => []
  def compIdsList : List ClassItem → List Nat
    | [] => []
    | i :: rest => compIds i ++ compIdsList rest
end

mutual
  theorem cssItem_eq : ∀ (i : ClassItem) (acc : Ctx × List Nat), cssItem i acc = (compIds i).foldl cf acc
    | i, acc => by
      cases i with
      | kvComp id on | kvIface id on | kvSlice id on id2 => cases on <;> simp [cssItem, compIds, cf]
      | classes items => simp [cssItem, compIds, cssItems_eq items acc]
      | slice ids => simp [cssItem, compIds]; rfl
      | _ => simp [cssItem, compIds, cf]
  theorem cssItems_eq : ∀ (l : List ClassItem) (acc : Ctx × List Nat), cssItems l acc = (compIdsList l).foldl cf acc
    | [], acc => by simp [cssItems, compIdsList]
    | i :: rest, acc => by simp [cssItems, compIdsList, List.foldl_append, cssItem_eq i acc, cssItems_eq rest]
end
mutual
  theorem namesOf_sub : ∀ (i : ClassItem) (id : Nat), id < 1000 → (id, true) ∈ namesOf i → id ∈ compIds i
    | i, id, hlt, h => by
      cases i with
      | classes items => simp only [namesOf] at h; simp only [compIds]; exact namesOfList_sub items id hlt h
      | kvSlice id' on id2 => clear hlt; simp [namesOf] at h; simp [compIds]; rcases h with ⟨h1, h2⟩ | h <;> simp_all
      -- the one place the bound is needed: a constant class shows the name `1000 + n` and has no rule
      | const n => simp [namesOf] at h; omega
      | _ => clear hlt; simp_all [namesOf, compIds]
  theorem namesOfList_sub : ∀ (l : List ClassItem) (id : Nat), id < 1000 → (id, true) ∈ namesOfList l → id ∈ compIdsList l
    | [], id, _, h => by simp [namesOfList] at h
    | i :: rest, id, hlt, h => by
        simp only [namesOfList, List.mem_append] at h
        simp only [compIdsList, List.mem_append]
        rcases h with h | h
        · exact Or.inl (namesOf_sub i id hlt h)
        · exact Or.inr (namesOfList_sub rest id hlt h)
end

theorem classNames_sub {items : List ClassItem} {id : Nat} (hlt : id < 1000) (h : id ∈ classNames items) :
    id ∈ compIdsList items := by
  apply namesOfList_sub items id hlt
  have h2 := (List.mem_filter.mp h).2
  cases hf : ((namesOfList items).reverse.find? (·.1 == id)).map (·.2) with
  | none => simp [hf] at h2
  | some v =>
    obtain ⟨⟨a, b⟩, hm, hp, rfl⟩ := LastWins.mem_of_find?_reverse_eq_some hf
    simp only [hf, Option.getD_some] at h2
    simp only [beq_iff_eq] at hp
    subst hp h2
    exact hm

theorem defsOfScript_eq (n : Nat) {es : List Event} :
    defsOfScript n es = (es.filter (isScriptDefOf n)).length := by
  unfold defsOfScript; congr 1

theorem defsOfClass_eq (n : Nat) {es : List Event} :
    defsOfClass n es = (es.filter (isStyleDefOf n)).length := by
  unfold defsOfClass; congr 1

theorem sf_fold (names : List Nat) : ∀ (c : Ctx) (acc : List Nat), names.foldl sf (c, acc) =
    ({ c with scripts := c.scripts ++ fresh c.scripts names }, acc ++ fresh c.scripts names) := by
  induction names with
  | nil => intro c acc; simp [fresh]
  | cons n rest ih =>
    intro c acc
    rw [List.foldl_cons, sf, fresh]
    split
    · exact ih c acc
    · rw [ih]; simp

theorem cf_fold (names : List Nat) : ∀ (c : Ctx) (acc : List Nat), names.foldl cf (c, acc) =
    ({ c with classes := c.classes ++ fresh c.classes names }, acc ++ fresh c.classes names) := by
  induction names with
  | nil => intro c acc; simp [fresh]
  | cons n rest ih =>
    intro c acc
    rw [List.foldl_cons, cf, cssComp, fresh]
    split
    · exact ih c acc
    · rw [ih]; simp

/-- The events `ev` read for one name: `d e` says that `e` defines it, `q e` that `e` uses it; `r`, `r'`: is it registered
    before, after `ev`. A definition comes only while the name is unregistered and registers it, a use only once it is. -/
def Tr (d q : Event → Bool) : Bool → List Event → Bool → Prop
  | r, [], r' => r = r'
  | r, e :: es, r' => (d e = true → r = false) ∧ (q e = true → r = true) ∧ Tr d q (r || d e) es r'

variable {d q : Event → Bool}

theorem Tr.append {r m r' : Bool} {e₁ e₂ : List Event} (h₁ : Tr d q r e₁ m) (h₂ : Tr d q m e₂ r') :
    Tr d q r (e₁ ++ e₂) r' := by
  induction e₁ generalizing r with
  | nil => exact h₁ ▸ h₂
  | cons e es ih => exact ⟨h₁.1, h₁.2.1, ih h₁.2.2⟩

theorem Tr.idle {r : Bool} {ev : List Event} (h : ∀ e ∈ ev, d e = false ∧ (q e = true → r = true)) : Tr d q r ev r := by
  induction ev with
  | nil => rfl
  | cons e es ih =>
    have he := h e (List.mem_cons_self ..)
    refine ⟨fun hd => by simp [he.1] at hd, he.2, ?_⟩
    rw [he.1, Bool.or_false]
    exact ih fun e' h' => h e' (List.mem_cons_of_mem _ h')

/-- Conservation: registered before + definitions emitted = registered after. -/
theorem Tr.count {r r' : Bool} {ev : List Event} (h : Tr d q r ev r') :
    r.toNat + (ev.filter d).length = r'.toNat := by
  induction ev generalizing r with
  | nil => exact congrArg Bool.toNat h
  | cons e es ih =>
    have := ih h.2.2
    cases hd : d e
    · rw [List.filter_cons_of_neg (by simp [hd])]
      rwa [hd, Bool.or_false] at this
    · rw [h.1 hd, List.filter_cons_of_pos hd, ← this, hd, Bool.or_true]
      exact (Nat.zero_add _).trans (Nat.add_comm ..)

theorem Tr.before {r r' : Bool} {ev : List Event} (h : Tr d q r ev r') {i : Nat} {e : Event}
    (hi : ev[i]? = some e) (hq : q e = true) :
    r = true ∨ ∃ j, j < i ∧ ∃ e', ev[j]? = some e' ∧ d e' = true := by
  induction ev generalizing r i with
  | nil => simp at hi
  | cons e₀ es ih =>
    cases i with
    | zero =>
      simp only [List.getElem?_cons_zero, Option.some.injEq] at hi
      exact Or.inl (h.2.1 (hi ▸ hq))
    | succ k =>
      rcases ih h.2.2 hi with hr | ⟨j, hj, e', he', hd⟩
      · rcases Bool.or_eq_true_iff.mp hr with hr | hd
        · exact Or.inl hr
        · exact Or.inr ⟨0, Nat.succ_pos _, e₀, rfl, hd⟩
      · exact Or.inr ⟨j + 1, Nat.succ_lt_succ hj, e', he', hd⟩

theorem Tr.once {r r' : Bool} {ev : List Event} (h : Tr d q r ev r') :
    (ev.filter d).length ≤ 1 ∧ (r = true → (ev.filter d).length = 0) := by
  have hc : r.toNat + (ev.filter d).length ≤ 1 := h.count ▸ r'.toNat_le
  refine ⟨Nat.le_trans (Nat.le_add_left _ _) hc, ?_⟩
  rintro rfl
  exact Nat.le_zero.mp (Nat.le_of_add_le_add_left (a := 1) hc)

theorem run_cons (c : Ctx) (u : Use) (rest : List Use) :
    run c (u :: rest) = ((run (step c u).1 rest).1, (step c u).2 ++ (run (step c u).1 rest).2) := rfl

theorem run_tr {reg : Ctx → Bool} (hstep : ∀ c u, Tr d q (reg c) (step c u).2 (reg (step c u).1)) (uses : List Use) :
    ∀ c, Tr d q (reg c) (run c uses).2 (reg (run c uses).1) := by
  induction uses with
  | nil => intro c; rfl
  | cons u rest ih => intro c; rw [run_cons]; exact (hstep c u).append (ih _)

/-- What a step emits: the definition event `e₀` of the newly registered names `F`, if there are any, then one use event
    `U m` for every name `m` of `l`. -/
def out (e₀ : Event) (U : Nat → Event) (F l : List Nat) : List Event :=
  (if F.isEmpty then [] else [e₀]) ++ l.map U

variable {e₀ : Event} {U : Nat → Event}

theorem Tr.idle_out {r : Bool} (hD : d e₀ = false ∧ q e₀ = false) (hU : ∀ m, d (U m) = false ∧ q (U m) = false)
    {F l : List Nat} : Tr d q r (out e₀ U F l) r := by
  refine Tr.idle fun e he => ?_
  rcases List.mem_append.mp he with he | he
  · split at he
    · cases he
    · rw [List.mem_singleton.mp he, hD.1, hD.2]; simp
  · obtain ⟨m, _, rfl⟩ := List.mem_map.mp he
    rw [(hU m).1, (hU m).2]; simp

/-- One RenderScriptItems / RenderCSSItems / Once call (`old` registered before, `names` given) followed by uses of the
    names `l`, read for the name `n`. -/
theorem tr_out {n : Nat} {old names : List Nat}
    (hD : fresh old names ≠ [] → d e₀ = (fresh old names).contains n ∧ q e₀ = false) {l : List Nat}
    (hU : ∀ m ∈ l, d (U m) = false ∧ (q (U m) = true → n ∈ old ∨ n ∈ names)) :
    Tr d q (old.contains n) (out e₀ U (fresh old names) l) ((old ++ fresh old names).contains n) := by
  refine Tr.append (m := (old ++ fresh old names).contains n) ?_ (Tr.idle fun e he => ?_)
  · split
    · rename_i h
      simp [List.isEmpty_iff.mp h, Tr]
    · rename_i h
      obtain ⟨hd, hq⟩ := hD (by simpa using h)
      refine ⟨fun h => ?_, fun h => by simp [hq] at h, by simp [Tr, hd]⟩
      rw [hd] at h
      simpa using (mem_fresh.mp (List.contains_iff_mem.mp h)).2
  · obtain ⟨m, hm, rfl⟩ := List.mem_map.mp he
    refine ⟨(hU m hm).1, fun hq => ?_⟩
    simp only [List.contains_iff_mem, List.mem_append, mem_fresh]
    by_cases ho : n ∈ old
    · exact Or.inl ho
    · exact Or.inr ⟨((hU m hm).2 hq).resolve_left ho, ho⟩

/-- The four kinds of step in closed form (`sc`: script component, `sa`: script attributes, `ca`: class attribute): the
    registry grows by the `fresh` names and the events are an `out`. -/
theorem step_sc (c : Ctx) (m : Nat) (hc : Bool) : step c (.scriptComponent m hc) =
    ({ c with scripts := c.scripts ++ fresh c.scripts [m] },
      out (.scriptDef (fresh c.scripts [m])) .scriptCall (fresh c.scripts [m]) (if hc then [m] else [])) := by
  rw [step, renderScriptItems_eq, sf_fold]; cases hc <;> simp [out]

theorem step_sa (c : Ctx) (names : List Nat) : step c (.scriptAttrs names) =
    ({ c with scripts := c.scripts ++ fresh c.scripts names },
      out (.scriptDef (fresh c.scripts names)) .scriptCall (fresh c.scripts names) names) := by
  rw [step, renderScriptItems_eq, sf_fold]; simp [out]

theorem step_ca (c : Ctx) (items : List ClassItem) : step c (.classAttr items) =
    ({ c with classes := c.classes ++ fresh c.classes (compIdsList items) },
      out (.styleDef (fresh c.classes (compIdsList items))) .className (fresh c.classes (compIdsList items))
        (classNames items)) := by
  rw [step, renderCSSItems, cssItems_eq, cf_fold]; simp [out]

theorem step_once (c : Ctx) (h : Nat) : step c (.once h) =
    ({ c with onces := c.onces ++ fresh c.onces [h] }, out (.onceContent h) .onceContent (fresh c.onces [h]) []) := by
  rw [step, fresh]; split <;> simp [out, fresh]

theorem script_tr (uses : List Use) (c : Ctx) (n : Nat) :
    Tr (isScriptDefOf n) (.scriptCall n == ·) (c.scripts.contains n) (run c uses).2 ((run c uses).1.scripts.contains n) := by
  refine run_tr (reg := fun c => c.scripts.contains n) (fun c u => ?_) uses c
  cases u with
  | scriptComponent m hc =>
    rw [step_sc]
    refine tr_out (fun _ => ⟨rfl, rfl⟩) fun k hk => ⟨rfl, fun hq => ?_⟩
    cases of_decide_eq_true hq
    cases hc
    · exact nomatch hk
    · exact .inr hk
  | scriptAttrs names =>
    rw [step_sa]
    refine tr_out (fun _ => ⟨rfl, rfl⟩) fun k hk => ⟨rfl, fun hq => ?_⟩
    cases of_decide_eq_true hq; exact Or.inr hk
  -- the other steps leave this registry alone and emit none of its events
  | _ => simp only [step_ca, step_once]; exact Tr.idle_out ⟨rfl, rfl⟩ (fun _ => ⟨rfl, rfl⟩)

/-- Names from 1000 up are constant classes: they carry no rule, so only smaller ids count as uses. -/
def isNameOf (id : Nat) (e : Event) : Bool := .className id == e && id < 1000

theorem class_tr (uses : List Use) (c : Ctx) (id : Nat) :
    Tr (isStyleDefOf id) (isNameOf id) (c.classes.contains id) (run c uses).2 ((run c uses).1.classes.contains id) := by
  refine run_tr (reg := fun c => c.classes.contains id) (fun c u => ?_) uses c
  cases u with
  | classAttr items =>
    rw [step_ca]
    refine tr_out (fun _ => ⟨rfl, rfl⟩) fun k hk => ⟨rfl, fun hq => ?_⟩
    simp only [isNameOf, Bool.and_eq_true, beq_iff_eq, Event.className.injEq, decide_eq_true_eq] at hq
    exact Or.inr (classNames_sub hq.2 (hq.1 ▸ hk))
  | _ => simp only [step_sc, step_sa, step_once]; exact Tr.idle_out ⟨rfl, rfl⟩ (fun _ => ⟨rfl, rfl⟩)

theorem once_tr (uses : List Use) (c : Ctx) (h : Nat) :
    Tr (· == .onceContent h) (fun _ => false) (c.onces.contains h) (run c uses).2 ((run c uses).1.onces.contains h) := by
  refine run_tr (reg := fun c => c.onces.contains h) (fun c u => ?_) uses c
  cases u with
  | once h' =>
    rw [step_once]
    refine tr_out (fun hF => ⟨?_, rfl⟩) nofun
    rw [fresh] at hF ⊢
    split at hF
    · exact absurd rfl hF
    · rename_i hc
      rw [if_neg hc]
      by_cases hh : h' = h
      · simp [hh]
      · simp [fresh, hh, Ne.symm hh]
  | _ => simp only [step_sc, step_sa, step_ca]; exact Tr.idle_out ⟨rfl, rfl⟩ (fun _ => ⟨rfl, rfl⟩)

end TemplVerif.Proofs.Registry
