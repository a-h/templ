import TemplVerif.Model.Reparse
import TemplVerif.Proofs.Bytes
/- C09: printing the re-parsed tree gives the bytes printed before, and the re-parsed tree satisfies the parser's
   invariants again. The printer reads a node's layout only through `isWs`, `isTrailer`, `alwaysBreak`, `isBlockNode`,
   `requireOwnLine` and the separator `sepAfter`; the first half of the file shows that `reNode` / `reNodes` keep each
   (and `eatsLeadingWs`, which the re-parse itself reads). -/
namespace TemplVerif.Proofs.Printer
open TemplVerif TemplVerif.Ast TemplVerif.Printer TemplVerif.Reparse

theorem reNode_isWs (n : Node) (tr : Trail) (l : Nat) : (reNode n tr l).isWs = n.isWs := by
  cases n <;> rfl

theorem reNode_isTrailer (n : Node) (tr : Trail) (l : Nat) : isTrailer (reNode n tr l) = isTrailer n := by
  cases n <;> rfl

theorem reNode_alwaysBreak (n : Node) (tr : Trail) (l : Nat) : alwaysBreak (reNode n tr l) = alwaysBreak n := by
  cases n <;> rfl

theorem reNode_eats (n : Node) (tr : Trail) (l : Nat) : eatsLeadingWs (reNode n tr l) = eatsLeadingWs n := by
  cases n <;> rfl

theorem reNode_ownTrail {n : Node} {tr : Trail} {l : Nat} (hf : nodeInFragment n = true) :
    ownTrail (reNode n tr l) = if isTrailer n then tr else .vert := by
  cases n with
  | goCode => cases hf
  | _ => rfl

theorem ownTrail_nonTrailer (n : Node) (h : isTrailer n = false) : ownTrail n = .vert := by
  cases n with
  | element | text | strExpr | goCode => cases h
  | _ => rfl

theorem sepAfter_nonTrailer {i : Bool} {n : Node} {rest : Nodes} (h : isTrailer n = false) : sepAfter i n rest = .vert := by
  unfold sepAfter
  rw [ownTrail_nonTrailer n h]
  exact ite_self _

theorem wsN_isWs : wsN.isWs = true := rfl

theorem wsN_facts : wfNode wsN = true ∧ isTrailer wsN = false ∧ nodeInFragment wsN = true := ⟨rfl, rfl, rfl⟩

/-- Of the empty list the re-parse makes nothing or one `wsN`: whatever does not see a whitespace node in front (`F`) sees
    no difference. -/
theorem reNodes_nil {α} {F : Nodes → α} {s : Nat} {i : Bool} {l : Nat} {p : Bool} {cl : Nat} {ce : Bool} {last : Option Node}
    (h : F (.cons wsN .nil) = F .nil) : F (reNodes s i l p cl ce last .nil) = F .nil := by
  simp only [reNodes]
  generalize (p && !ce && !(cl == 0 && (match last with | some l => isLineComment l | none => true))) = c
  cases c
  · rfl
  · exact h

theorem reNodes_cons_ws {s : Nat} {i : Bool} {l : Nat} {p : Bool} {cl : Nat} {ce : Bool} {last : Option Node}
    {n : Node} {rest : Nodes} (hn : n.isWs = true) :
    reNodes s i l p cl ce last (.cons n rest) = reNodes s i l p cl ce last rest := by
  simp only [reNodes, hn, if_true]

/-- the indentation of the next node: `start` after a line break, 0 on a line that has begun -/
def nextLevel (s : Nat) (tr : Trail) : Nat := match tr with | .vert => s | _ => 0

/-- Where a statement is about something that skips whitespace nodes, the users close both branches of this `if` by one
    `split <;> simp only […]`: a `wsN` in front computes away. -/
theorem reNodes_cons {s : Nat} {i : Bool} {l : Nat} {p : Bool} {cl : Nat} {ce : Bool} {last : Option Node}
    {n : Node} {rest : Nodes} (hn : n.isWs = false) :
    reNodes s i l p cl ce last (.cons n rest) =
      if (p && !eatsLeadingWs n) = true then
        .cons wsN (.cons (reNode n (sepAfter i n rest) l)
          (reNodes s i (nextLevel s (sepAfter i n rest)) (!isTrailer n) cl ce (some n) rest))
      else .cons (reNode n (sepAfter i n rest) l)
          (reNodes s i (nextLevel s (sepAfter i n rest)) (!isTrailer n) cl ce (some n) rest) := by
  simp only [reNodes, hn, Bool.false_eq_true, if_false]
  rfl

theorem reNodes_allWs {s : Nat} {i : Bool} {l : Nat} {p : Bool} {cl : Nat} {ce : Bool} {last : Option Node} :
    (ns : Nodes) → (reNodes s i l p cl ce last ns).allWs = ns.allWs
  | .nil => reNodes_nil rfl
  | .cons n rest => by
    cases hn : n.isWs
    · rw [reNodes_cons hn]
      split <;> simp only [Nodes.allWs, reNode_isWs, hn, wsN_isWs, Bool.false_and, Bool.and_false]
    · rw [reNodes_cons_ws hn, reNodes_allWs rest]
      simp only [Nodes.allWs, hn, Bool.true_and]

/-- the children of a re-parsed element -/
def reChildren (cs : Nodes) (ic : Bool) (l : Nat) : Nodes :=
  if cs.allWs then .nil else if (!cs.allWs && (ic || requireOwnLine cs)) then reNodes (l + 1) true (l + 1) true l false none cs
  else reNodes 0 false 0 false 0 false none cs

theorem reNode_element (n : Bytes) (as : Attrs) (cs : Nodes) (t : Trail) (ia ic : Bool) (tr : Trail) (l : Nat) :
    reNode (.element n as cs t ia ic) tr l =
      .element n as (reChildren cs ic l) tr (ia || hasCond as)
        ((!cs.allWs && (ic || requireOwnLine cs)) || (!cs.allWs && inlineBreaks cs)) := rfl

theorem reChildren_allWs (cs : Nodes) (ic : Bool) (l : Nat) : (reChildren cs ic l).allWs = cs.allWs := by
  unfold reChildren
  split
  · next h => rw [h]; rfl
  · split <;> exact reNodes_allWs cs

/-- the three ways an element's children are laid out: none to print, one per line below it, or on its line (and then,
    in a tree the parser built, without a line break among them) -/
theorem element_cases {n : Bytes} {as : Attrs} {cs : Nodes} {t : Trail} {ia ic : Bool}
    (hw : wfNode (.element n as cs t ia ic) = true) (l : Nat) :
    wfNodes cs = true ∧
    ((cs.allWs = true ∧ reChildren cs ic l = .nil) ∨
     (cs.allWs = false ∧ (ic || requireOwnLine cs) = true ∧
       reChildren cs ic l = reNodes (l + 1) true (l + 1) true l false none cs) ∨
     (cs.allWs = false ∧ ic = false ∧ requireOwnLine cs = false ∧ inlineBreaks cs = false ∧
       reChildren cs ic l = reNodes 0 false 0 false 0 false none cs)) := by
  simp only [wfNode, Bool.and_eq_true] at hw
  refine ⟨hw.1, ?_⟩
  unfold reChildren
  cases ha : cs.allWs
  · cases hi : (ic || requireOwnLine cs)
    · have hb := hw.2
      simp only [ha, hi, Bool.and_false, Bool.false_or, Bool.not_eq_true'] at hb
      exact .inr (.inr ⟨rfl, (Bool.or_eq_false_iff.mp hi).1, (Bool.or_eq_false_iff.mp hi).2, hb, rfl⟩)
    · exact .inr (.inl ⟨rfl, rfl, rfl⟩)
  · exact .inl ⟨rfl, rfl⟩

mutual
theorem reNode_spans (n : Node) (tr : Trail) (l : Nat) (hw : wfNode n = true) :
    indentsChildren (reNode n tr l) = indentsChildren n ∧ spansLines (reNode n tr l) = spansLines n := by
  cases n with
  | element n as cs t ia ic =>
    obtain ⟨hwc, hm⟩ := element_cases hw l
    have hro := fun s i l p cl ce last => reNodes_requireOwnLine cs s i l p cl ce last hwc
    rw [reNode_element]
    simp only [indentsChildren, spansLines, reChildren_allWs]
    rcases hm with ⟨ha, _⟩ | ⟨ha, hi, _⟩ | ⟨ha, rfl, hr, hb, hc⟩
    · simp [ha]
    · simp [ha, hi]
    · simp [ha, hr, hb, hc, hro]
  | _ => exact ⟨rfl, rfl⟩
theorem reNodes_requireOwnLine : (ns : Nodes) → (s : Nat) → (i : Bool) → (l : Nat) → (p : Bool) → (cl : Nat) → (ce : Bool) →
    (last : Option Node) → wfNodes ns = true → requireOwnLine (reNodes s i l p cl ce last ns) = requireOwnLine ns
  | .nil => fun s i l p cl ce last _ => reNodes_nil rfl
  | .cons n rest => fun s i l p cl ce last hw => by
    simp only [wfNodes, Bool.and_eq_true] at hw
    cases hn : n.isWs
    · rw [reNodes_cons hn]
      have h1 := (reNode_spans n (sepAfter i n rest) l hw.1.1).2
      have h2 := reNodes_requireOwnLine rest s i (nextLevel s (sepAfter i n rest)) (!isTrailer n) cl ce (some n) hw.2
      split <;> simp only [requireOwnLine, wsN_isWs, reNode_isWs, reNode_isTrailer, h1, h2, Bool.not_true, Bool.false_and, Bool.false_or]
    · rw [reNodes_cons_ws hn, reNodes_requireOwnLine rest s i l p cl ce last hw.2]
      simp only [requireOwnLine, hn, Bool.not_true, Bool.false_and, Bool.false_or]
end

theorem reNode_isBlockNode {n : Node} {tr : Trail} {l : Nat} (hw : wfNode n = true) :
    isBlockNode (reNode n tr l) = isBlockNode n := by
  cases n with
  | element n as cs t ia ic =>
    have h := (reNode_spans (.element n as cs t ia ic) tr l hw).1
    rw [reNode_element] at h ⊢
    simp only [isBlockNode, h]
  | _ => rfl

def headWs : Nodes → Bool
  | .cons m _ => m.isWs
  | .nil => false

theorem wfNodes_cons_eq (n : Node) (rest : Nodes) :
    wfNodes (.cons n rest) = (wfNode n && !(isTrailer n && headWs rest) && wfNodes rest) := by
  cases rest <;> simp [wfNodes, headWs]

theorem wf_cons {n : Node} {rest : Nodes} (hw : wfNodes (.cons n rest) = true) :
    wfNode n = true ∧ (isTrailer n = true → headWs rest = false) ∧ wfNodes rest = true := by
  simp only [wfNodes_cons_eq, Bool.and_eq_true] at hw
  exact ⟨hw.1.1, fun ht => by simpa [ht] using hw.1.2, hw.2⟩

theorem tail_agree (s : Nat) (i : Bool) (l : Nat) (cl : Nat) (ce : Bool) (last : Option Node) (rest : Nodes)
    (hh : headWs rest = false) (hw : wfNodes rest = true) :
    nextIsBlock (reNodes s i l false cl ce last rest) = nextIsBlock rest ∧
      (reNodes s i l false cl ce last rest).isNil = rest.isNil := by
  cases rest with
  | nil => exact ⟨rfl, rfl⟩
  | cons m r =>
    rw [reNodes_cons (show m.isWs = false from hh)]
    exact ⟨reNode_isBlockNode (wf_cons hw).1, rfl⟩

theorem sep_agree {s : Nat} {i : Bool} {l l' : Nat} {cl : Nat} {ce : Bool} {last : Option Node} {n : Node} {rest : Nodes}
    (hw : wfNodes (.cons n rest) = true) (hf : nodeInFragment n = true) :
    sepAfter i (reNode n (sepAfter i n rest) l) (reNodes s i l' (!isTrailer n) cl ce last rest) = sepAfter i n rest := by
  obtain ⟨_, hh, hwr⟩ := wf_cons hw
  cases ht : isTrailer n
  · rw [sepAfter_nonTrailer ht, sepAfter_nonTrailer ((reNode_isTrailer ..).trans ht)]
  · obtain ⟨a1, a2⟩ := tail_agree s i l' cl ce last rest (hh ht) hwr
    have h2 : ∀ T, ownTrail (reNode n T l) = T := by intro T; rw [reNode_ownTrail hf, ht]; rfl
    simp only [Bool.not_true]
    generalize hT : sepAfter i n rest = T
    unfold sepAfter
    rw [h2, a1, a2, reNode_alwaysBreak, ← hT]
    unfold sepAfter
    split <;> rfl

def isTemplEl : Node → Bool
  | .templEl .. => true
  | _ => false

/-- the first non-whitespace node is a `@component { … }` block -/
def headT : Nodes → Bool
  | .nil => false
  | .cons m r => if m.isWs then headT r else isTemplEl m

/-- Where the printer can be writing a list: one node per line inside an indented block (then a `@component` block only ever
    starts a line, at indentation ≥ 1), or a list kept on its element's line (then there is no `@component` block in it). -/
def LvlOk (s : Nat) (i : Bool) (l : Nat) (ns : Nodes) : Prop :=
  (i = true ∧ 1 ≤ s ∧ (1 ≤ l ∨ headT ns = false)) ∨ requireOwnLine ns = false

/-- Why `LvlOk` is needed: the list statement is false at indentation 0 for a `@c { }` block whose body is only white
    space (in fragment, satisfies `wfNodes`): printed `@c {⏎}`, re-parsed at closing level 0 as `@c` with no body. -/
example :
    let t : Nodes := .cons (.templEl [99] (.cons (.ws [32]) .nil)) .nil
    nodesInFragment t = true ∧ wfNodes t = true ∧
      printNodes 0 true 0 (reNodes 0 true 0 false 0 false none t) ≠ printNodes 0 true 0 t := by
  decide

theorem isTemplEl_false (n : Node) (h : isTrailer n = true ∨ isBlockNode n = false) : isTemplEl n = false := by
  cases n with
  | templEl => rcases h with h | h <;> cases h
  | _ => rfl

theorem templEl_level {e : Bytes} {b : Nodes} {l : Nat} (hl : 1 ≤ l ∨ isTemplEl (.templEl e b) = false) : 1 ≤ l :=
  hl.resolve_right fun h => by cases h

theorem lvlOk_block {l : Nat} {ns : Nodes} : LvlOk (l + 1) true (l + 1) ns :=
  Or.inl ⟨rfl, Nat.le_add_left 1 l, Or.inl (Nat.le_add_left 1 l)⟩

theorem lvlOk_ws {s : Nat} {i : Bool} {l : Nat} {n : Node} {rest : Nodes} (hn : n.isWs = true)
    (h : LvlOk s i l (.cons n rest)) : LvlOk s i l rest := by
  rcases h with ⟨h1, h2, h3⟩ | h
  · left
    refine ⟨h1, h2, ?_⟩
    simpa only [headT, hn, if_true] using h3
  · right
    simp only [requireOwnLine, Bool.or_eq_false_iff] at h
    exact h.2

theorem sepAfter_ne_vert {n : Node} {rest : Nodes} (h : sepAfter true n rest ≠ .vert) :
    isTrailer n = true ∧ nextIsBlock rest = false := by
  unfold sepAfter at h
  split at h
  · exact absurd rfl h
  · next hc =>
    simp only [Bool.true_and, Bool.or_eq_true, not_or, Bool.not_eq_true] at hc
    refine ⟨?_, hc.1.1⟩
    cases ht : isTrailer n
    · exact absurd (ownTrail_nonTrailer n ht) h
    · rfl

theorem lvlOk_step {s : Nat} {i : Bool} {l : Nat} {n : Node} {rest : Nodes} (hn : n.isWs = false)
    (hw : wfNodes (.cons n rest) = true) (h : LvlOk s i l (.cons n rest)) :
    (1 ≤ l ∨ isTemplEl n = false) ∧ LvlOk s i (nextLevel s (sepAfter i n rest)) rest := by
  obtain ⟨_, hh, _⟩ := wf_cons hw
  rcases h with ⟨rfl, h2, h3⟩ | h
  · refine ⟨by simpa only [headT, hn, Bool.false_eq_true, if_false] using h3, .inl ⟨rfl, h2, ?_⟩⟩
    cases hs : sepAfter true n rest with
    | vert => exact .inl h2
    | _ =>
      -- the line goes on: what follows is not a block node, so not a `@component` block
      obtain ⟨ht, hb⟩ := sepAfter_ne_vert (n := n) (rest := rest) (by rw [hs]; decide)
      right
      cases rest with
      | nil => rfl
      | cons m r =>
        have hm : m.isWs = false := hh ht
        simp only [headT, hm, Bool.false_eq_true, if_false]
        exact isTemplEl_false m (.inr hb)
  · simp only [requireOwnLine, Bool.or_eq_false_iff, hn, Bool.not_false, Bool.true_and, Bool.not_eq_false'] at h
    exact ⟨.inr (isTemplEl_false n (.inl h.1.1)), .inr h.2⟩

theorem printNodes_cons_ws {s : Nat} {i : Bool} {l : Nat} {n : Node} {rest : Nodes} (hn : n.isWs = true) :
    printNodes s i l (.cons n rest) = printNodes s i l rest := by
  simp only [printNodes, hn, if_true]

theorem printNodes_cons {s : Nat} {i : Bool} {l : Nat} {n : Node} {rest : Nodes} (hn : n.isWs = false) :
    printNodes s i l (.cons n rest) =
      printNode n l ++ Trail.bytes (sepAfter i n rest) ++ printNodes s i (nextLevel s (sepAfter i n rest)) rest := by
  simp only [printNodes, hn, Bool.false_eq_true, if_false]
  rfl

theorem reNodes_nonNil {s : Nat} {i : Bool} {l : Nat} {cl : Nat} {last : Option Node} (hcl : 1 ≤ cl) :
    (ns : Nodes) → (reNodes s i l true cl false last ns).isNil = false
  | .nil => by
    cases cl with
    | zero => cases hcl
    | succ _ => rfl
  | .cons n rest => by
    cases hn : n.isWs
    · rw [reNodes_cons hn]
      split <;> rfl
    · rw [reNodes_cons_ws hn]; exact reNodes_nonNil hcl rest

theorem isNil_of_allWs_false {ns : Nodes} (h : ns.allWs = false) : ns.isNil = false := by
  cases ns with
  | nil => cases h
  | cons _ _ => rfl

theorem printNode_templEl (e : Bytes) (b : Nodes) (l : Nat) :
    printNode (.templEl e b) l =
      tabs l ++ [64] ++ e ++ (if b.isNil then [] else openBrace ++ printNodes (l + 1) true (l + 1) b ++ tabs l ++ [125]) := by
  cases b <;> rfl

theorem reNode_templEl (e : Bytes) (b : Nodes) (tr : Trail) (l : Nat) :
    reNode (.templEl e b) tr l =
      .templEl e (if b.isNil then .nil else reNodes (l + 1) true (l + 1) true l false none b) := by
  cases b <;> rfl

theorem printNode_ifE (e : Bytes) (thn : Nodes) (elifs : ElseIfs) (els : Nodes) (l : Nat) :
    printNode (.ifE e thn elifs els) l =
      tabs l ++ kwIf ++ e ++ openBrace ++ printNodes (l + 1) true (l + 1) thn ++ printElifs elifs l ++
        (if els.isNil then [] else tabs l ++ elseKw ++ printNodes (l + 1) true (l + 1) els) ++ tabs l ++ [125] := by
  cases els <;> rfl

/-- Nothing is pending in front of an `else` branch, so the empty branch needs no case of its own. Which value `more` has
    (does an `else if` follow and eat the white space) is left open: the list lemmas hold for every `closeEats`. -/
theorem reNode_ifE (e : Bytes) (thn : Nodes) (elifs : ElseIfs) (els : Nodes) (tr : Trail) (l : Nat) :
    ∃ more, reNode (.ifE e thn elifs els) tr l =
      .ifE e (reNodes (l + 1) true (l + 1) true l more none thn) (reElifs elifs l)
        (reNodes (l + 1) true (l + 1) false l false none els) := by
  cases els <;> exact ⟨_, rfl⟩

theorem reElse_isNil {e : Bytes} {thn : Nodes} {elifs : ElseIfs} {els : Nodes} (hw : wfNode (.ifE e thn elifs els) = true)
    {s : Nat} {i : Bool} {l : Nat} {cl : Nat} {ce : Bool} {last : Option Node} :
    (reNodes s i l false cl ce last els).isNil = els.isNil := by
  cases els with
  | nil => rfl
  | cons n r =>
    simp only [wfNode, Nodes.isNil, Bool.false_or, Bool.and_eq_true, Bool.not_eq_true'] at hw
    exact isNil_of_allWs_false (by rw [reNodes_allWs]; exact hw.2)

mutual
theorem print_reNode : (n : Node) → (tr : Trail) → (l : Nat) → wfNode n = true → nodeInFragment n = true →
    (1 ≤ l ∨ isTemplEl n = false) → printNode (reNode n tr l) l = printNode n l :=
  fun n tr l hw hf hl => by
    cases n with
    | element n as cs t ia ic =>
      simp only [nodeInFragment, Bool.and_eq_true] at hf
      obtain ⟨hwc, hm⟩ := element_cases hw l
      rw [reNode_element, printNode, printNode, reChildren_allWs]
      have hia : (ia || hasCond as || hasCond as) = (ia || hasCond as) := by cases ia <;> cases hasCond as <;> rfl
      rcases hm with ⟨ha, _⟩ | ⟨ha, hi, hc⟩ | ⟨ha, rfl, hr, hb, hc⟩
      · simp only [hia, ha, Bool.not_true, Bool.false_eq_true, if_false]
      · simp only [hia, ha, hi, hc, print_reNodes cs hwc hf.2 lvlOk_block,
          Bool.not_false, Bool.true_and, Bool.true_or, if_true]
      · simp only [hia, ha, hb, hc, hr, print_reNodes cs hwc hf.2 (Or.inr hr),
          reNodes_requireOwnLine cs _ _ _ _ _ _ _ hwc, Bool.not_false, Bool.and_false, Bool.or_false, if_true,
          Bool.false_eq_true, if_false]
    | forE e b =>
      simp only [wfNode, nodeInFragment, Bool.and_eq_true] at hw hf
      simp only [reNode, printNode]
      rw [print_reNodes b hw hf.2 lvlOk_block]
    | templEl e b =>
      simp only [wfNode, nodeInFragment, Bool.and_eq_true] at hw hf
      rw [reNode_templEl, printNode_templEl, printNode_templEl]
      cases hb : b.isNil
      · -- the closing brace is indented (`hl`), so white space stays in front of it: the block does not come out empty
        simp only [Bool.false_eq_true, if_false, reNodes_nonNil (templEl_level hl) b,
          print_reNodes b hw hf.2 lvlOk_block]
      · rfl
    | ifE e thn elifs els =>
      obtain ⟨more, hre⟩ := reNode_ifE e thn elifs els tr l
      rw [hre, printNode_ifE, printNode_ifE, reElse_isNil hw]
      simp only [wfNode, nodeInFragment, Bool.and_eq_true] at hw hf
      rw [print_reNodes thn hw.1.1.1 hf.1.1.2 lvlOk_block, print_reElifs elifs l hw.1.1.2 hf.1.2,
        print_reNodes els hw.1.2 hf.2 lvlOk_block]
    | switchE e cs =>
      simp only [wfNode, nodeInFragment, Bool.and_eq_true] at hw hf
      simp only [reNode, printNode]
      rw [print_reCases cs l hw hf.2]
    | call e => exact List.append_nil _
    | _ => rfl
theorem print_reNodes {s : Nat} {i : Bool} {l : Nat} {p : Bool} {cl : Nat} {ce : Bool} {last : Option Node} :
    (ns : Nodes) → wfNodes ns = true → nodesInFragment ns = true → LvlOk s i l ns →
    printNodes s i l (reNodes s i l p cl ce last ns) = printNodes s i l ns
  | .nil => fun _ _ _ => reNodes_nil rfl
  | .cons n rest => fun hw hf hl => by
    obtain ⟨hwn, _, hwr⟩ := wf_cons hw
    simp only [nodesInFragment, Bool.and_eq_true] at hf
    cases hn : n.isWs
    · obtain ⟨hl1, hl2⟩ := lvlOk_step hn hw hl
      rw [reNodes_cons hn]
      split <;> simp only [printNodes_cons_ws wsN_isWs, printNodes_cons ((reNode_isWs ..).trans hn), printNodes_cons hn,
        sep_agree hw hf.1, print_reNode n _ l hwn hf.1 hl1, print_reNodes rest hwr hf.2 hl2]
    · rw [reNodes_cons_ws hn, printNodes_cons_ws hn]
      exact print_reNodes rest hwr hf.2 (lvlOk_ws hn hl)
theorem print_reElifs : (es : ElseIfs) → (l : Nat) → wfElifs es = true → elifsInFragment es = true →
    printElifs (reElifs es l) l = printElifs es l
  | .nil => fun _ _ _ => rfl
  | .cons e thn rest => fun l hw hf => by
    simp only [wfElifs, elifsInFragment, Bool.and_eq_true] at hw hf
    simp only [reElifs, printElifs]
    rw [print_reNodes thn hw.1 hf.1.2 lvlOk_block, print_reElifs rest l hw.2 hf.2]
theorem print_reCases : (cs : Cases) → (l : Nat) → wfCases cs = true → casesInFragment cs = true →
    printCases (reCases cs l) (l + 1) = printCases cs (l + 1)
  | .nil => fun _ _ _ => rfl
  | .cons e b rest => fun l hw hf => by
    simp only [wfCases, casesInFragment, Bool.and_eq_true] at hw hf
    simp only [reCases, printCases]
    rw [show l + 2 = l + 1 + 1 from rfl, print_reNodes b hw.1 hf.1.2 lvlOk_block, print_reCases rest l hw.2 hf.2]
end

theorem headWs_reNodes {s : Nat} {i : Bool} {l : Nat} {cl : Nat} {ce : Bool} {last : Option Node} :
    (ns : Nodes) → headWs (reNodes s i l false cl ce last ns) = false
  | .nil => rfl
  | .cons n rest => by
    cases hn : n.isWs
    · rw [reNodes_cons hn]
      exact (reNode_isWs ..).trans hn
    · rw [reNodes_cons_ws hn]; exact headWs_reNodes rest

theorem inlineBreaks_reNodes {s : Nat} {l : Nat} {p : Bool} {cl : Nat} {ce : Bool} {last : Option Node} :
    (ns : Nodes) → requireOwnLine ns = false → inlineBreaks ns = false →
      nodesInFragment ns = true → inlineBreaks (reNodes s false l p cl ce last ns) = false
  | .nil => fun _ _ _ => reNodes_nil rfl
  | .cons n rest => fun h1 h2 hf => by
    simp only [requireOwnLine, inlineBreaks, Bool.or_eq_false_iff] at h1 h2
    simp only [nodesInFragment, Bool.and_eq_true] at hf
    cases hn : n.isWs
    · have ht : isTrailer n = true := by
        have := h1.1
        simp only [hn, Bool.not_false, Bool.true_and, Bool.or_eq_false_iff, Bool.not_eq_false'] at this
        exact this.1
      have ho : (ownTrail n == Trail.vert) = false := by simpa [hn] using h2.1
      have hown : ownTrail (reNode n (sepAfter false n rest) l) = ownTrail n := by
        rw [reNode_ownTrail hf.1, ht]; rfl
      rw [reNodes_cons hn]
      split <;> simp only [inlineBreaks, wsN_isWs, hown, ho, inlineBreaks_reNodes rest h1.2 h2.2 hf.2, Bool.not_true,
        Bool.false_and, Bool.and_false, Bool.or_false]
    · rw [reNodes_cons_ws hn]; exact inlineBreaks_reNodes rest h1.2 h2.2 hf.2

mutual
theorem wf_reNode : (n : Node) → (tr : Trail) → (l : Nat) → wfNode n = true → nodeInFragment n = true →
    wfNode (reNode n tr l) = true ∧ nodeInFragment (reNode n tr l) = true :=
  fun n tr l hw hf => by
    cases n with
    | element n as cs t ia ic =>
      -- the flag the printer reads off the re-parsed element is the one it read off the original
      have key := (reNode_spans (.element n as cs t ia ic) tr l hw).1
      obtain ⟨hwc, hm⟩ := element_cases hw l
      simp only [nodeInFragment, Bool.and_eq_true] at hf
      rw [reNode_element] at key ⊢
      simp only [indentsChildren] at key
      simp only [wfNode, nodeInFragment, key, hf.1, Bool.true_and]
      rcases hm with ⟨ha, hc⟩ | ⟨ha, hi, hc⟩ | ⟨ha, rfl, hr, hb, hc⟩
      · rw [hc, ha]; exact ⟨rfl, rfl⟩
      · rw [hc, ha, hi, (wf_reNodes cs hwc hf.2).1, (wf_reNodes cs hwc hf.2).2]; exact ⟨rfl, rfl⟩
      · rw [hc, (wf_reNodes cs hwc hf.2).1, (wf_reNodes cs hwc hf.2).2, inlineBreaks_reNodes cs hr hb hf.2, Bool.not_false,
          Bool.or_true]
        exact ⟨rfl, rfl⟩
    | forE e b =>
      simp only [wfNode, nodeInFragment, Bool.and_eq_true] at hw hf
      simp only [reNode, wfNode, nodeInFragment, wf_reNodes b hw hf.2, hf.1, Bool.and_self, and_self]
    | templEl e b =>
      simp only [wfNode, nodeInFragment, Bool.and_eq_true] at hw hf
      rw [reNode_templEl]
      cases hb : b.isNil
      · simp only [Bool.false_eq_true, if_false, wfNode, nodeInFragment, wf_reNodes b hw hf.2, hf.1, Bool.and_self, and_self]
      · exact ⟨rfl, by simp only [if_true, nodeInFragment, nodesInFragment, hf.1, Bool.and_self]⟩
    | ifE e thn elifs els =>
      obtain ⟨more, hre⟩ := reNode_ifE e thn elifs els tr l
      have hnil := fun l => reElse_isNil hw (s := l + 1) (i := true) (l := l + 1) (cl := l) (ce := false) (last := none)
      simp only [wfNode, nodeInFragment, Bool.and_eq_true] at hw hf
      rw [hre]
      simp only [wfNode, nodeInFragment, wf_reNodes thn hw.1.1.1 hf.1.1.2, wf_reElifs elifs l hw.1.1.2 hf.1.2,
        wf_reNodes els hw.1.2 hf.2, hf.1.1.1, hnil, reNodes_allWs, hw.2, Bool.and_self, and_self]
    | switchE e cs =>
      simp only [wfNode, nodeInFragment, Bool.and_eq_true] at hw hf
      simp only [reNode, wfNode, nodeInFragment, wf_reCases cs l hw hf.2, hf.1, Bool.and_self, and_self]
    | call e => exact ⟨rfl, by simp only [reNode, nodeInFragment, nodesInFragment, Bool.and_true]; exact hf⟩
    | _ => exact ⟨rfl, hf⟩
theorem wf_reNodes {s : Nat} {i : Bool} {l : Nat} {p : Bool} {cl : Nat} {ce : Bool} {last : Option Node} :
    (ns : Nodes) → wfNodes ns = true → nodesInFragment ns = true →
    wfNodes (reNodes s i l p cl ce last ns) = true ∧ nodesInFragment (reNodes s i l p cl ce last ns) = true
  | .nil, _, _ => ⟨reNodes_nil rfl, reNodes_nil rfl⟩
  | .cons n rest, hw, hf => by
    obtain ⟨hwn, _, hwr⟩ := wf_cons hw
    simp only [nodesInFragment, Bool.and_eq_true] at hf
    cases hn : n.isWs
    · -- white space is pending after `n` only if `n` does not take it as its trailing space
      have hh : (isTrailer n && headWs (reNodes s i (nextLevel s (sepAfter i n rest)) (!isTrailer n) cl ce (some n) rest)) = false := by
        cases ht : isTrailer n
        · rfl
        · exact headWs_reNodes rest
      rw [reNodes_cons hn]
      split <;> simp only [wfNodes_cons_eq, nodesInFragment, wsN_facts, reNode_isTrailer, hh, wf_reNode n _ l hwn hf.1,
        wf_reNodes rest hwr hf.2, Bool.false_and, Bool.not_false, Bool.and_self, and_self]
    · rw [reNodes_cons_ws hn]
      exact wf_reNodes rest hwr hf.2
theorem wf_reElifs : (es : ElseIfs) → (l : Nat) → wfElifs es = true → elifsInFragment es = true →
    wfElifs (reElifs es l) = true ∧ elifsInFragment (reElifs es l) = true
  | .nil => fun _ _ _ => ⟨rfl, rfl⟩
  | .cons e thn rest => fun l hw hf => by
    simp only [wfElifs, elifsInFragment, Bool.and_eq_true] at hw hf
    simp only [reElifs, wfElifs, elifsInFragment, wf_reNodes thn hw.1 hf.1.2, wf_reElifs rest l hw.2 hf.2, hf.1.1, Bool.and_self,
      and_self]
theorem wf_reCases : (cs : Cases) → (l : Nat) → wfCases cs = true → casesInFragment cs = true →
    wfCases (reCases cs l) = true ∧ casesInFragment (reCases cs l) = true
  | .nil => fun _ _ _ => ⟨rfl, rfl⟩
  | .cons e b rest => fun l hw hf => by
    simp only [wfCases, casesInFragment, Bool.and_eq_true] at hw hf
    simp only [reCases, wfCases, casesInFragment, wf_reNodes b hw.1 hf.1.2, wf_reCases rest l hw.2 hf.2, hf.1.1, Bool.and_self,
      and_self]
end

end TemplVerif.Proofs.Printer
