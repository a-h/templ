import TemplVerif.Model.Denote
import TemplVerif.Proofs.FailStop
/-
C10 at the level of whole templates (the semantics `Denote` of C02): a render in which an expression or a component
fails has written a PREFIX of what the same template writes when nothing fails, and has evaluated a prefix of the
expressions. The render under `env` is compared clause by clause with the render under `clearErr env` (every failure
flag removed): they are at the same point until a failing value is used (`R`).
-/
namespace TemplVerif.Proofs.PrefixBase
open TemplVerif TemplVerif.Ast TemplVerif.Sem

/-- the two renders are at the same point, or the left one has stopped and the right one continues it -/
def R (a b : St) : Prop := a = b ∨ (a.err = true ∧ Le a b)

theorem R.refl (a : St) : R a a := Or.inl rfl

theorem R.le {a b : St} (h : R a b) : Le a b := by
  rcases h with h | h
  · subst h; exact Le.refl _
  · exact h.2

theorem R.fail_left {s b : St} (h : Le s b) : R s.fail b := Or.inr ⟨rfl, h⟩
theorem R.stick_left {s b : St} (h : Le s b) : R s.stick b := Or.inr ⟨rfl, h⟩

theorem R.of_same {f g : St → St} (hf : ∀ {s}, Cont s (f s)) (hg : ∀ {s}, Cont s (g s))
    (hfg : ∀ s, s.err = false → R (f s) (g s)) {a b : St} (h : R a b) : R (f a) (g b) := by
  rcases h with h | ⟨he, hl⟩
  · subst h
    cases he : a.err with
    | false => exact hfg a he
    | true => rw [hf.1 he]; exact Or.inr ⟨he, hg.2⟩
  · rw [hf.1 he]; exact Or.inr ⟨he, hl.trans hg.2⟩

theorem R.ite {c : Prop} [Decidable c] {x y x' y' : St} (hx : R x x') (hy : R y y') :
    R (if c then x else y) (if c then x' else y') := by
  split <;> assumption

theorem R.gwrite {x : Bytes} {a b : St} (h : R a b) :
    R (if a.err = true then a else a.write x) (if b.err = true then b else b.write x) :=
  R.of_same Cont.gwrite Cont.gwrite (fun _ _ => R.refl _) h

theorem space_R {cur : Node} {next : Bool} {a b : St} (h : R a b) :
    R (Denote.space cur next a) (Denote.space cur next b) :=
  R.of_same space_cont space_cont (fun _ _ => R.refl _) h

/-- the same for a pair (the result of an else-if chain) -/
def R2 (p q : Bool × St) : Prop := p = q ∨ (p.2.err = true ∧ Le p.2 q.2)

theorem R2.refl (p : Bool × St) : R2 p p := Or.inl rfl

theorem R2.of_R {a b : St} (t : Bool) (h : R a b) : R2 (t, a) (t, b) := by
  rcases h with h | h
  · subst h; exact Or.inl rfl
  · exact Or.inr h

/-- `R2` through the `match` that follows an else-if chain: the chain's state if a branch was taken, else the else arm. -/
theorem R2.else_arm {f g : St → St} (hf : ∀ {s}, Cont s (f s))
    (hg : ∀ {s}, Cont s (g s)) (hfg : ∀ s, R (f s) (g s)) : ∀ {p q : Bool × St}, R2 p q →
    R (match p with | (true, st) => st | (false, st) => f st) (match q with | (true, st) => st | (false, st) => g st) := by
  intro p q h
  rcases h with h | ⟨he, hl⟩
  · subst h
    rcases p with ⟨t, s⟩
    cases t
    · exact hfg s
    · exact R.refl _
  · rcases p with ⟨t, s⟩
    rcases q with ⟨t', s'⟩
    have e1 : (match (t, s) with | (true, st) => st | (false, st) => f st) = s := by
      cases t
      · exact hf.1 he
      · rfl
    rw [e1]
    refine Or.inr ⟨he, hl.trans ?_⟩
    cases t'
    · exact hg.2
    · exact Le.refl _

theorem renderSegs_cons2 (c : St → St) (x y : Bytes) (rest : List Bytes) (s : St) :
    renderSegs c (x :: y :: rest) s = if s.err = true then s else renderSegs c (y :: rest) (c (s.write x)) := rfl

theorem renderSegs_R {c c' : St → St} (hc : ∀ {s}, Cont s (c s)) (hc' : ∀ {s}, Cont s (c' s))
    (hR : ∀ {a b : St}, R a b → R (c a) (c' b)) :
    {segs : List Bytes} → {a b : St} → R a b → R (renderSegs c segs a) (renderSegs c' segs b)
  | [], a, b, h => h
  | [x], a, b, h => by rw [renderSegs, renderSegs]; exact h.gwrite
  | x :: y :: rest, a, b, h => by
    refine R.of_same (renderSegs_cont @hc) (renderSegs_cont @hc') (fun s hs => ?_) h
    rw [renderSegs_cons2, renderSegs_cons2]
    simp only [hs, Bool.false_eq_true, if_false]
    exact renderSegs_R @hc @hc' hR (hR (R.refl _))

end TemplVerif.Proofs.PrefixBase

namespace TemplVerif.Proofs.Prefix
open TemplVerif TemplVerif.Ast TemplVerif.Sem
open TemplVerif.Proofs.Gen TemplVerif.Proofs.Compose TemplVerif.Proofs.PrefixBase

/-- the same value, not failing -/
def clearVal : Val → Val
  | .str s _ => .str s false
  | .comp segs _ => .comp segs false
  | .rawOut s _ => .rawOut s false
  | .jsVal o i _ => .jsVal o i false
  | v => v

/-- the same environment with every failure removed -/
def clearErr (env : Env) : Env := env.map fun (k, en) => (k, { en with val := clearVal en.val })

theorem lookup_clear (e : Bytes) : (env : Env) →
    List.lookup e (clearErr env) = (List.lookup e env).map (fun en => { en with val := clearVal en.val })
  | [] => rfl
  | (k, en) :: env => by
    have ih := lookup_clear e env
    simp only [clearErr, List.map_cons, List.lookup_cons] at ih ⊢
    cases e == k <;> simp [ih]

theorem eval_clear (env : Env) (e : Bytes) (st : St) :
    eval (clearErr env) e st = ((eval env e st).1.map clearVal, (eval env e st).2) := by
  unfold eval
  rw [lookup_clear]
  cases List.lookup e env <;> rfl

theorem peek_clear (env : Env) (e : Bytes) : peek (clearErr env) e = (peek env e).map clearVal := by
  rw [← eval_peek (clearErr env) e {}, eval_clear, eval_peek]

theorem bind_clear (b : List (Bytes × Bytes)) (env : Env) : Sem.bind b (clearErr env) = clearErr (Sem.bind b env) := by
  simp [Sem.bind, clearErr, clearVal]

/-- Case analysis on the result of an evaluation, both sides at once (after rewriting with `eval_clear`). Where the
    clause does not look at the failure flag of the value the two sides are the same term; what is left are the
    branches that continue with a subtree or whose value fails on the left, in the order of `Val`'s constructors,
    `false` before `true` where the value carries a Bool. -/
syntax "eval_cases " term:max term:max term:max " with " ident : tactic
macro_rules
  | `(tactic| eval_cases $env $e $s with $s') => `(tactic|
    (generalize eval $env $e $s = r
     rcases r with ⟨_ | ⟨_, _ | _⟩ | ⟨_ | _⟩ | _ | _ | _ | ⟨_, _ | _⟩ | ⟨_, _ | _⟩ | _ | _ | ⟨_, _, _ | _⟩ | _, $s':ident⟩ <;>
       (try (first | exact R.refl _ | exact R2.refl _ | dsimp only [clearVal, Option.map]))))

theorem writeEscaped_R (env : Env) (e : Bytes) {a b : St} (h : R a b) :
    R (writeEscaped env e a) (writeEscaped (clearErr env) e b) := by
  refine R.of_same writeEscaped_cont writeEscaped_cont (fun s hs => ?_) h
  simp only [writeEscaped, hs, Bool.false_eq_true, if_false, eval_clear]
  eval_cases env e s with s'
  exact R.fail_left ((Le.refl _).write _)

theorem caseIndex_clear (env : Env) (v : Bytes) (cs : List Bytes) : caseIndex (clearErr env) v cs = caseIndex env v cs := by
  unfold caseIndex
  simp only
  congr 1
  all_goals try funext _
  -- both searches ask for kinds of value that carry no failure flag
  all_goals
    congr 1
    funext c
    rw [peek_clear]
    generalize peek env c = p
    rcases p with _ | w
    · rfl
    · cases w <;> rfl

mutual
theorem reachedClasses_clear (strict : Bool) (env : Env) : (as : Attrs) →
    Denote.reachedClasses strict (clearErr env) as = Denote.reachedClasses strict env as
  | .nil => rfl
  | .cons a as => by
    rw [Denote.reachedClasses, Denote.reachedClasses, reachedClassesOne_clear strict env a, reachedClasses_clear strict env as]
theorem reachedClassesOne_clear (strict : Bool) (env : Env) : (a : Attr) →
    Denote.reachedClassesOne strict (clearErr env) a = Denote.reachedClassesOne strict env a
  | .cond c thn els => by
    simp only [Denote.reachedClassesOne, peek_clear, reachedClasses_clear strict env thn, reachedClasses_clear strict env els]
    generalize peek env c = p
    rcases p with _ | w
    · rfl
    · cases w <;> rfl
  | .boolConst _ | .const _ _ _ | .boolExpr _ _ | .expr _ _ | .spread _ => rfl
end

mutual
theorem reachedScripts_clear (strict : Bool) (env : Env) : (as : Attrs) →
    Denote.reachedScripts strict (clearErr env) as = Denote.reachedScripts strict env as
  | .nil => rfl
  | .cons a as => by
    rw [Denote.reachedScripts, Denote.reachedScripts, reachedScriptsOne_clear strict env a, reachedScripts_clear strict env as]
theorem reachedScriptsOne_clear (strict : Bool) (env : Env) : (a : Attr) →
    Denote.reachedScriptsOne strict (clearErr env) a = Denote.reachedScriptsOne strict env a
  | .cond c thn els => by
    simp only [Denote.reachedScriptsOne, peek_clear, reachedScripts_clear strict env thn, reachedScripts_clear strict env els]
    generalize peek env c = p
    rcases p with _ | w
    · rfl
    · cases w <;> rfl
  | .boolConst _ | .const _ _ _ | .boolExpr _ _ | .expr _ _ | .spread _ => rfl
end

theorem announceClasses_clear (env : Env) : (es : List Bytes) → (st : St) →
    Denote.announceClasses (clearErr env) es st = Denote.announceClasses env es st
  | [], st => rfl
  | e :: es, st => by
    simp only [Denote.announceClasses, eval_clear]
    split
    · rfl
    · generalize eval env e st = r
      rcases r with ⟨_ | v, s'⟩
      · rfl
      · cases v with
        | classes _ => exact announceClasses_clear env es s'
        | _ => rfl

theorem evalScripts_clear (env : Env) : (es : List Bytes) → (st : St) →
    evalScripts (clearErr env) es st = evalScripts env es st
  | [], st => rfl
  | e :: es, st => by
    simp only [evalScripts, eval_clear]
    split
    · rfl
    · generalize eval env e st = r
      rcases r with ⟨_ | v, s'⟩
      · rfl
      · cases v with
        | script name fn _ => simp only [Option.map, clearVal, evalScripts_clear env es s']
        | _ => rfl

theorem announceScripts_clear (env : Env) (es : List Bytes) (st : St) :
    Denote.announceScripts (clearErr env) es st = Denote.announceScripts env es st := by
  simp only [Denote.announceScripts, evalScripts_clear]

mutual
theorem attrs_R (css : Bool) (el : Bytes) : (as : Attrs) → (env : Env) → {a b : St} → R a b →
    R (Denote.attrs css el as env a) (Denote.attrs css el as (clearErr env) b)
  | .nil, env, a, b, h => h
  | .cons x as, env, a, b, h => by
    rw [Denote.attrs, Denote.attrs]
    exact attrs_R css el as env (R.of_same attr_cont attr_cont (attr_same css el x env) h)
theorem attr_same (css : Bool) (el : Bytes) : (x : Attr) → (env : Env) → (s : St) → s.err = false →
    R (Denote.attr css el x env s) (Denote.attr css el x (clearErr env) s)
  | x, env, s, hs => by
    cases x with
    | boolExpr name e =>
      simp only [Denote.attr, hs, Bool.false_eq_true, if_false, eval_clear]
      eval_cases env e s with s'
    | expr name e =>
      simp only [Denote.attr, hs, Bool.false_eq_true, if_false, eval_clear, peek_clear]
      apply R.gwrite
      have hw := writeEscaped_R env e (R.refl (s.write (sp ++ Html.escape name ++ eqDq)))
      refine R.ite ?_ (R.ite hw (R.ite ?_ hw))
      · generalize peek env e = p
        rcases p with _ | w
        · exact R.refl _
        · cases w <;> exact R.refl _
      · eval_cases env e (s.write (sp ++ Html.escape name ++ eqDq)) with s'
    | spread e =>
      simp only [Denote.attr, hs, Bool.false_eq_true, if_false, eval_clear]
      eval_cases env e s with s'
      exact R.fail_left ((Le.refl _).write _)
    | cond e thn els =>
      simp only [Denote.attr, hs, Bool.false_eq_true, if_false, eval_clear]
      eval_cases env e s with s'
      · exact attrs_R css el els env (R.refl _)      -- `.bool false`
      · exact attrs_R css el thn env (R.refl _)      -- `.bool true`
    | _ => exact R.refl _
end

theorem openTag_R (strict css : Bool) (name : Bytes) (as : Attrs) (env : Env) {a b : St} (h : R a b) :
    R (Denote.openTag strict css name as env a) (Denote.openTag strict css name as (clearErr env) b) := by
  refine R.of_same openTag_cont openTag_cont (fun s hs => ?_) h
  unfold Denote.openTag
  simp only [hs, Bool.false_eq_true, if_false, reachedClasses_clear, reachedScripts_clear, announceClasses_clear,
    announceScripts_clear]
  split
  · exact R.refl _
  · generalize Denote.announceScripts env (Denote.reachedScripts strict env as)
      (if css = true then Denote.announceClasses env (Denote.reachedClasses strict env as) s else s) = s2
    exact R.ite (R.refl _) (R.gwrite (attrs_R css name as env (R.refl _)))

theorem scriptParts_R : (ps : List ScriptPart) → (env : Env) → {a b : St} → R a b →
    R (Denote.scriptParts ps env a) (Denote.scriptParts ps (clearErr env) b)
  | [], env, a, b, h => h
  | .js v :: rest, env, a, b, h => by
    rw [Denote.scriptParts, Denote.scriptParts]
    exact scriptParts_R rest env h.gwrite
  | .go e inside trail :: rest, env, a, b, h => by
    refine R.of_same scriptParts_cont scriptParts_cont (fun s hs => ?_) h
    simp only [Denote.scriptParts, hs, Bool.false_eq_true, if_false, eval_clear]
    eval_cases env e s with s'
    · exact scriptParts_R rest env (R.refl _)      -- `.jsVal _ _ false`
    · exact R.fail_left (((Le.refl _).write _).trans scriptParts_cont.2)      -- `.jsVal _ _ true`

theorem iterate_R {f : Env → St → St} (hR : ∀ env {a b : St}, R a b → R (f env a) (f (clearErr env) b)) {env : Env} :
    {bs : List (List (Bytes × Bytes))} → {a b : St} → R a b → R (iterate bs f env a) (iterate bs f (clearErr env) b)
  | [], a, b, h => h
  | x :: bs, a, b, h => by
    simp only [iterate, List.foldl_cons]
    exact iterate_R hR (by rw [bind_clear]; exact hR _ h)

mutual
/-- Only the arms that evaluate a value which may fail, or continue into a subtree, have anything to show. -/
theorem node_same (strict : Bool) : (n : Node) → (next : Bool) → (env : Env) → (s : St) → s.err = false →
    R (Denote.node strict n next env s) (Denote.node strict n next (clearErr env) s)
  | n, next, env, s, hs => by
    cases n with
    | element name as children t ia ic =>
      rw [Denote.node, Denote.node]
      apply space_R
      have h1 := openTag_R strict true name as env (R.refl s)
      generalize Denote.openTag strict true name as env s = a1 at h1 ⊢
      generalize Denote.openTag strict true name as (clearErr env) s = b1 at h1 ⊢
      exact R.ite h1 (R.gwrite (nodes_R strict true true children false env h1))
    | children =>
      simp only [Denote.node, hs, Bool.false_eq_true, if_false, peek_clear]
      generalize peek env childrenKey = p
      rcases p with _ | w
      · exact R.refl _
      · cases w with
        | rawOut x err =>
          cases err
          · exact R.refl _
          · exact R.fail_left ((Le.refl _).write _)
        | _ => exact R.refl _
    | raw name as contents =>
      rw [Denote.node, Denote.node]
      exact R.gwrite (openTag_R strict false name as env (R.refl s))
    | script as parts =>
      rw [Denote.node, Denote.node]
      exact R.gwrite (scriptParts_R parts env (openTag_R strict false _ as env (R.refl s)))
    | forE e body =>
      simp only [Denote.node, hs, Bool.false_eq_true, if_false, eval_clear]
      eval_cases env e s with s'
      exact iterate_R (fun env _ _ h => nodes_R strict false true body next env h) (R.refl _)
    | call e =>
      simp only [Denote.node, hs, Bool.false_eq_true, if_false, eval_clear]
      eval_cases env e s with s'
      exact R.fail_left (renderSegs_cont (Cont.refl _)).2
    | templEl e body =>
      simp only [Denote.node, hs, Bool.false_eq_true, if_false, eval_clear]
      eval_cases env e s with s'
      -- `.comp _ false`, then `.comp _ true`
      · exact renderSegs_R nodes_cont nodes_cont (fun h => nodes_R strict false true body false env h) (R.refl _)
      · exact R.fail_left (renderSegs_cont nodes_cont).2
    | ifE e thn elifs els =>
      simp only [Denote.node, hs, Bool.false_eq_true, if_false, eval_clear]
      eval_cases env e s with s'
      -- `.bool false`: the else-if chain, then `els` unless a branch was taken; `.bool true`: `thn`
      · exact R2.else_arm nodes_cont nodes_cont
          (fun s => nodes_R strict false true els next env (R.refl s)) (elseIfs_R strict elifs next env s')
      · exact nodes_R strict false true thn next env (R.refl _)
    | switchE e cs =>
      simp only [Denote.node, hs, Bool.false_eq_true, if_false, eval_clear, caseIndex_clear]
      eval_cases env e s with s'
      · split      -- `.str _ false`
        · exact case_R strict cs _ next env (R.refl _)
        · exact R.refl _
      · -- `.str _ true`: a failing string is of the wrong kind for `switch` (left: stuck); the right side takes its case
        apply R.stick_left
        split
        · exact case_cont.2
        · exact Le.refl _
    | strExpr e t =>
      rw [Denote.node, Denote.node]
      exact space_R (R.ite (R.refl s) (writeEscaped_R env e (R.refl s)))
    | goCode e _ _ =>
      simp only [Denote.node, hs, Bool.false_or, eval_clear]
      split
      · exact R.refl _
      · eval_cases env e s with s'
    | _ => exact R.refl _
theorem nodes_R (strict : Bool) : (all atStart : Bool) → (ns : Nodes) → (next : Bool) → (env : Env) → {a b : St} →
    R a b → R (Denote.nodes strict all atStart ns next env a) (Denote.nodes strict all atStart ns next (clearErr env) b)
  | all, atStart, .nil, next, env, a, b, h => by rw [Denote.nodes, Denote.nodes]; exact h
  | all, atStart, .cons n rest, next, env, a, b, h => by
    rw [Denote.nodes, Denote.nodes]
    exact R.ite (nodes_R strict all atStart rest next env h)
      (nodes_R strict all false rest next env (R.of_same node_cont node_cont (node_same strict n _ env) h))
theorem elseIfs_R (strict : Bool) : (es : ElseIfs) → (next : Bool) → (env : Env) → (s : St) →
    R2 (Denote.elseIfs strict es next env s) (Denote.elseIfs strict es next (clearErr env) s)
  | .nil, next, env, s => by rw [Denote.elseIfs, Denote.elseIfs]; exact R2.refl _
  | .cons e thn rest, next, env, s => by
    rw [Denote.elseIfs, Denote.elseIfs, eval_clear]
    eval_cases env e s with s'
    · exact elseIfs_R strict rest next env s'      -- `.bool false`
    · exact R2.of_R true (nodes_R strict false true thn next env (R.refl _))      -- `.bool true`
theorem case_R (strict : Bool) : (cs : Cases) → (i : Nat) → (next : Bool) → (env : Env) → {a b : St} → R a b →
    R (Denote.case strict cs i next env a) (Denote.case strict cs i next (clearErr env) b)
  | .nil, i, next, env, a, b, h => by rw [Denote.case, Denote.case]; exact h
  | .cons _ body _, 0, next, env, a, b, h => by
    rw [Denote.case, Denote.case]; exact nodes_R strict false true body next env h
  | .cons _ _ rest, i + 1, next, env, a, b, h => by
    rw [Denote.case, Denote.case]; exact case_R strict rest i next env h
end

theorem node_R (strict : Bool) : (n : Node) → (next : Bool) → (env : Env) → {a b : St} → R a b →
    R (Denote.node strict n next env a) (Denote.node strict n next (clearErr env) b)
  | n, next, env, _, _, h => R.of_same node_cont node_cont (node_same strict n next env) h

theorem nodes_out_mono (strict all atStart : Bool) (ns : Nodes) (next : Bool) (env : Env) (st : St) :
    st.out <+: (Denote.nodes strict all atStart ns next env st).out ∧
    st.trace <+: (Denote.nodes strict all atStart ns next env st).trace :=
  ⟨nodes_cont.2.1, nodes_cont.2.2.1⟩

end TemplVerif.Proofs.Prefix
