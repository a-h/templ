/-
"Register what has not been seen yet": RenderScriptItems, RenderCSSItems and the once handles of C12 and the script
emission of a render (`Sem.emitScripts`) all run the same fold; `fresh old names` is what it adds.
-/
namespace TemplVerif
variable {α : Type} [BEq α] [LawfulBEq α]

/-- The elements of `names` that `old` lacks, first occurrences in order. -/
def fresh (old : List α) : List α → List α
  | [] => []
  | n :: rest => if old.contains n then fresh old rest else n :: fresh (old ++ [n]) rest

theorem mem_fresh {x : α} {names : List α} : ∀ {old : List α}, x ∈ fresh old names ↔ x ∈ names ∧ x ∉ old := by
  induction names with
  | nil => simp [fresh]
  | cons n rest ih =>
    intro old
    rw [fresh]
    split
    · next hn =>
      rw [ih, List.mem_cons]
      exact and_congr_left fun ho => (or_iff_right fun (hx : x = n) => ho (hx ▸ List.contains_iff_mem.mp hn)).symm
    · next hn =>
      rw [List.mem_cons, List.mem_cons, ih, List.mem_append, List.mem_singleton]
      by_cases hx : x = n
      · simp [hx, mt List.contains_iff_mem.mpr hn]
      · simp [hx]

theorem nodup_append_fresh {names : List α} : ∀ {old : List α}, old.Nodup → (old ++ fresh old names).Nodup := by
  induction names with
  | nil => intro old h; simpa [fresh] using h
  | cons n rest ih =>
    intro old h
    rw [fresh]
    split
    · exact ih h
    · next hn =>
      have := ih (old := old ++ [n]) (List.nodup_append.mpr ⟨h, List.nodup_cons.mpr ⟨List.not_mem_nil, List.nodup_nil⟩, fun a ha b hb =>
        List.mem_singleton.mp hb ▸ fun e => hn (List.contains_iff_mem.mpr (e ▸ ha))⟩)
      rwa [List.append_assoc] at this

end TemplVerif
