import TemplVerif.Model.Gen
import TemplVerif.Proofs.FailStop
/-
C02 — running the generated statements, below the node level: layer by layer `execs (Gen.… x) = Denote.… x` for the
hoisted class / script expressions, attributes, the open tag, script parts and the trailing space.
-/
namespace TemplVerif.Proofs.Gen
open TemplVerif TemplVerif.Ast TemplVerif.Sem TemplVerif.Proofs.PrefixBase TemplVerif.Proofs.Compose

@[simp] theorem frags_nil_append (b : Gen.Frags) : (Gen.Frags.nil ++ b) = b := rfl
@[simp] theorem frags_cons_append (f : Gen.Frag) (fs b : Gen.Frags) :
    (Gen.Frags.cons f fs ++ b) = Gen.Frags.cons f (fs ++ b) := rfl

theorem execs_append : (a b : Gen.Frags) → (env : Env) → (st : St) →
    Gen.execs (a ++ b) env st = Gen.execs b env (Gen.execs a env st)
  | .nil, _, _, _ => rfl
  | .cons f fs, b, env, st => execs_append fs b env (Gen.exec f env st)

theorem exec_err {f : Gen.Frag} {env : Env} {st : St} (h : st.err = true) : Gen.exec f env st = st := by
  cases f <;> exact if_pos h

theorem execs_err : {fs : Gen.Frags} → {env : Env} → {st : St} → (h : st.err = true) → Gen.execs fs env st = st
  | .nil, _, _, _ => rfl
  | .cons f fs, env, st, h => by rw [Gen.execs, exec_err h]; exact execs_err h

@[simp] theorem execs_one (f : Gen.Frag) (env : Env) (st : St) : Gen.execs (Gen.Frags.one f) env st = Gen.exec f env st :=
  rfl

@[simp] theorem execs_lits (s : Bytes) (env : Env) (st : St) :
    Gen.execs (Gen.lits s) env st = if st.err then st else st.write s := rfl

theorem announceClasses_append (env : Env) : (a b : List Bytes) → (st : St) →
    Denote.announceClasses env (a ++ b) st = Denote.announceClasses env b (Denote.announceClasses env a st)
  | [], _, _ => rfl
  | e :: a, b, st => by
    rw [List.cons_append, Denote.announceClasses, Denote.announceClasses]
    split
    · exact (announceClasses_cont.1 ‹_›).symm
    · have hn := eval_none env e st
      generalize eval env e st = r at hn ⊢
      split
      · exact announceClasses_append env a b _
      · exact (announceClasses_cont.1 rfl).symm
      · exact (announceClasses_cont.1 (hn rfl)).symm

mutual
theorem scriptExprs_eq (env : Env) : (as : Attrs) → Gen.scriptExprs as = Denote.reachedScripts false env as
  | .nil => rfl
  | .cons a as => by simp [Gen.scriptExprs, Denote.reachedScripts, scriptExprsOne_eq env a, scriptExprs_eq env as]
theorem scriptExprsOne_eq (env : Env) : (a : Attr) → Gen.scriptExprsOne a = Denote.reachedScriptsOne false env a
  | .cond _ thn els => by
    simp [Gen.scriptExprsOne, Denote.reachedScriptsOne, scriptExprs_eq env thn, scriptExprs_eq env els]
  | .boolConst _ | .const _ _ _ | .boolExpr _ _ | .expr _ _ | .spread _ => rfl
end

mutual
theorem execs_cssHoist (env : Env) : (as : Attrs) → (st : St) →
    Gen.execs (Gen.cssHoist as) env st = Denote.announceClasses env (Denote.reachedClasses false env as) st
  | .nil, _ => rfl
  | .cons a as, st => by
    simp only [Gen.cssHoist, Denote.reachedClasses, execs_append, announceClasses_append,
      execs_cssHoistOne env a, execs_cssHoist env as]
theorem execs_cssHoistOne (env : Env) : (a : Attr) → (st : St) →
    Gen.execs (Gen.cssHoistOne a) env st = Denote.announceClasses env (Denote.reachedClassesOne false env a) st
  | .expr name e, st => by
    simp only [Gen.cssHoistOne, Denote.reachedClassesOne]
    split
    · simp only [execs_one, Gen.exec, Denote.announceClasses]; rfl
    · rfl
  | .cond _ thn els, st => by
    simp only [Gen.cssHoistOne, Denote.reachedClassesOne, execs_append, announceClasses_append,
      execs_cssHoist env thn, execs_cssHoist env els, Bool.false_eq_true, if_false]
  | .boolConst _, _ | .const _ _ _, _ | .boolExpr _ _, _ | .spread _, _ => rfl
end

theorem execs_scriptHoist (env : Env) (as : Attrs) (st : St) :
    Gen.execs (Gen.scriptHoist as) env st = Denote.announceScripts env (Denote.reachedScripts false env as) st := by
  rw [← scriptExprs_eq env as]
  simp only [Gen.scriptHoist, Denote.announceScripts]
  cases h : Gen.scriptExprs as with
  | nil => rw [List.isEmpty_nil, Bool.or_true]; rfl
  | cons e es => rw [List.isEmpty_cons, Bool.or_false]; rfl

theorem exec_ifB_cons (c : Bytes) (body : Gen.Frags) (rest : Gen.Branches) (els : Gen.Frags) (env : Env) (st : St) :
    Gen.exec (.ifB (.cons c body rest) els) env st =
      if st.err then st else
      match eval env c st with
      | (some (.bool true), st) => Gen.execs body env st
      | (some (.bool false), st) =>
        (match Gen.execBranches rest env st with
         | (true, st) => st
         | (false, st) => Gen.execs els env st)
      | (some _, st) => st.stick
      | (none, st) => st := by
  rw [Gen.exec, Gen.execBranches]
  split
  · rfl
  · generalize eval env c st = r
    rcases r with ⟨_ | v, s⟩
    · rfl
    · cases v <;> first | rfl | (rename_i b; cases b <;> rfl)

mutual
theorem execs_genAttrs (css : Bool) (el : Bytes) : (as : Attrs) → (env : Env) → (st : St) →
    Gen.execs (Gen.genAttrs css el as) env st = Denote.attrs css el as env st
  | .nil, env, st => rfl
  | .cons a as, env, st => by
    rw [Gen.genAttrs, execs_append, execs_genAttr css el a, execs_genAttrs css el as, Denote.attrs]
theorem execs_genAttr (css : Bool) (el : Bytes) : (a : Attr) → (env : Env) → (st : St) →
    Gen.execs (Gen.genAttr css el a) env st = Denote.attr css el a env st
  | .boolConst _, env, st | .const _ _ _, env, st => by rw [Gen.genAttr, execs_lits, Denote.attr]
  | .boolExpr name e, env, st => by
    rw [Gen.genAttr, execs_one, exec_ifB_cons, Denote.attr]
    split
    · rfl
    · rename_i h
      have hs := fun v => eval_err_of_some env e st (v := v)
      generalize eval env e st = r at hs
      rcases r with ⟨_ | v, s⟩
      · rfl
      · cases v <;> first | rfl | skip
        rename_i b
        cases b
        · rfl
        · exact (execs_lits _ env s).trans (by rw [hs _ rfl, if_neg h])
  | .expr name e, env, st => by
    cases h : st.err with
    | true => rw [Denote.attr, if_pos h, execs_err h]
    | false =>
      rw [Denote.attr, Gen.genAttr]
      have e1 : (st.write (sp ++ Html.escape name ++ [61])).write dq = st.write (sp ++ Html.escape name ++ eqDq) := by
        rw [write_write, List.append_assoc]; rfl
      simp only [Gen.execs, Gen.exec, execs_lits, write_err, h, Bool.false_eq_true, if_false, e1]
      refine congrArg (fun s : St => if s.err = true then s else s.write dq) ?_
      -- the value writers differ only in their own guards, and the state has not failed
      rw [Gen.attrValue, apply_ite (Gen.exec · env _), apply_ite (Gen.exec · env _), apply_ite (Gen.exec · env _)]
      simp only [Gen.exec, write_err, h, Bool.false_eq_true, if_false]
      rfl
  | .spread e, env, st => by rw [Gen.genAttr, execs_one, Gen.exec, Denote.attr]; rfl
  | .cond e thn els, env, st => by
    rw [Gen.genAttr, execs_one, exec_ifB_cons, Denote.attr]
    simp only [Gen.execBranches, execs_genAttrs css el thn, execs_genAttrs css el els]
    rfl
end

theorem execs_openTag (css : Bool) (name : Bytes) (as : Attrs) (env : Env) (st : St) :
    Gen.execs (Gen.openTag css name as) env st = Denote.openTag false css name as env st := by
  cases as with
  | nil => exact execs_lits _ env st
  | cons a as =>
    simp only [Gen.openTag, Denote.openTag, execs_append, execs_scriptHoist, execs_genAttrs, execs_lits]
    by_cases h : st.err = true
    · have h1 : Gen.execs (if css = true then Gen.cssHoist (.cons a as) else .nil) env st = st := execs_err h
      simp [h1, h, announceScripts_frozen _ _ _ h, attrs_cont.1 h]
    · have h1 : Gen.execs (if css = true then Gen.cssHoist (.cons a as) else .nil) env st =
          if css = true then Denote.announceClasses env (Denote.reachedClasses false env (.cons a as)) st else st := by
        cases css <;> simp [Gen.execs, execs_cssHoist]
      simp only [h1, h, if_false, Bool.false_eq_true]
      generalize (Denote.announceScripts env (Denote.reachedScripts false env (Attrs.cons a as))
        (if css = true then Denote.announceClasses env (Denote.reachedClasses false env (Attrs.cons a as)) st else st)) = st2
      by_cases h2 : st2.err = true
      · simp [h2, attrs_cont.1 h2]
      · simp [h2]

@[simp] theorem scriptParts_stick (env : Env) (ps : List ScriptPart) (st : St) :
    Denote.scriptParts ps env st.stick = st.stick := scriptParts_cont.1 rfl
@[simp] theorem scriptParts_fail (env : Env) (ps : List ScriptPart) (st : St) :
    Denote.scriptParts ps env st.fail = st.fail := scriptParts_cont.1 rfl

theorem execs_lits_opt (t : Bytes) (env : Env) (st : St) :
    Gen.execs (if t.isEmpty then .nil else Gen.lits t) env st = if st.err then st else st.write t := by
  cases t with
  | nil => simp [Gen.execs]
  | cons b t => exact execs_lits _ env st

theorem execs_genScriptParts (env : Env) : (ps : List ScriptPart) → (st : St) →
    Gen.execs (Gen.genScriptParts ps) env st = Denote.scriptParts ps env st
  | [], _ => rfl
  | .js v :: rest, st => by
    rw [Gen.genScriptParts, execs_append, execs_genScriptParts env rest, execs_lits_opt, Denote.scriptParts]
  | .go e inside trail :: rest, st => by
    rw [Gen.genScriptParts, Gen.execs, execs_append, execs_genScriptParts env rest, execs_lits_opt, Denote.scriptParts]
    cases h : st.err with
    | true => rw [exec_err h]; simp [h, scriptParts_cont.1 h]
    | false =>
      rw [Gen.exec]
      simp only [h, Bool.false_eq_true, if_false]
      have hs := fun v => eval_err_of_some env e st (v := v)
      have hn := eval_none env e st
      generalize eval env e st = r at hs hn ⊢
      symm
      split
      · rename_i s
        have h1 : s.err = false := (hs _ rfl).trans h
        simp [h1]
      · simp
      · simp
      · rename_i s
        have h1 : s.err = true := hn rfl
        simp [h1, scriptParts_cont.1 h1]

theorem execs_trailing (cur : Node) (next : Bool) (env : Env) (st : St) :
    Gen.execs (Gen.trailing cur next) env st = Denote.space cur next st := by
  simp only [Gen.trailing, Denote.space]
  split <;> simp [Gen.execs]

end TemplVerif.Proofs.Gen
