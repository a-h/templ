import TemplVerif.Model.SourceMap
import TemplVerif.Proofs.LastWins
/-
C07 — symbol ranges: every recorded range is found again, in both directions, as long as no two symbols start at
the same place (which distinct top-level nodes never do).
-/
namespace TemplVerif.Proofs.Symbols
open TemplVerif TemplVerif.Pos TemplVerif.SourceMap

/-- the start (line, col) of a range -/
def key (r : Rng) : Nat × Nat := (r.from_.line, r.from_.col)

theorem foldl_addSymbol (adds : List (Rng × Rng)) (m : Syms) :
    adds.foldl (fun m a => addSymbol m a.1 a.2) m =
      ⟨m.s2t ++ adds.map fun a => ⟨a.1.from_.line, a.1.from_.col, a.2⟩,
       m.t2s ++ adds.map fun a => ⟨a.2.from_.line, a.2.from_.col, a.1⟩⟩ := by
  induction adds generalizing m with
  | nil => simp
  | cons a as ih => rw [List.foldl_cons, ih]; simp [addSymbol]

theorem addSymbols_eq (adds : List (Rng × Rng)) :
    addSymbols adds = ⟨adds.map fun a => ⟨a.1.from_.line, a.1.from_.col, a.2⟩,
      adds.map fun a => ⟨a.2.from_.line, a.2.from_.col, a.1⟩⟩ := by
  simp [addSymbols, foldl_addSymbol]

/-- Generic in `entry`, so that it serves both directions. -/
theorem symLookup_map (entry : Rng × Rng → SymEntry) {adds : List (Rng × Rng)}
    (h : (adds.map fun a => ((entry a).line, (entry a).col)).Nodup) {a : Rng × Rng} (ha : a ∈ adds) :
    symLookup (adds.map entry) (entry a).line (entry a).col = some (entry a).rng := by
  rw [symLookup, ← List.nil_append (adds.map entry)]
  refine LastWins.find?_reverse_append_of_mem [] (List.mem_map_of_mem ha) (by simp)
    (fun e' he' hp => ?_)
  obtain ⟨a', ha', rfl⟩ := List.mem_map.mp he'
  simp only [Bool.and_eq_true, beq_iff_eq] at hp
  rw [LastWins.eq_of_nodup_map h ha' ha (by simp [hp.1, hp.2])]

theorem symLookup_sound {es : List SymEntry} {line col : Nat} {r : Rng} (h : symLookup es line col = some r) :
    ∃ e ∈ es, e.line = line ∧ e.col = col ∧ e.rng = r := by
  obtain ⟨e, he, hp, hr⟩ := LastWins.mem_of_find?_reverse_eq_some h
  simp only [Bool.and_eq_true, beq_iff_eq] at hp
  exact ⟨e, he, hp.1, hp.2, hr⟩

end TemplVerif.Proofs.Symbols
