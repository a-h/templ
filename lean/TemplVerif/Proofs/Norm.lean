import TemplVerif.Model.Norm
import TemplVerif.Proofs.Bytes
/- C08: `Norm` is a projection that the generator does not see. Both inductions rest on the same facts about what
   `Norm.node` keeps of a node and `Norm.nodes` of a list. -/
namespace TemplVerif.Proofs.Norm
open TemplVerif TemplVerif.Ast

/-- the `next` flag the traversals hand to the node in front of `rest` -/
def nxOf (all : Bool) (rest : Nodes) (next : Bool) : Bool :=
  if all then (match rest.firstNonWs with | some m => Sem.Node.inline m | none => next)
  else if rest.allWs then next else Sem.optInline rest.head?

theorem norm_nodes_cons (all a : Bool) (n : Node) (rest : Nodes) (next : Bool) :
    Norm.nodes all a (.cons n rest) next =
      if n.isWs && (all || a || rest.allWs) then Norm.nodes all a rest next
      else .cons (Norm.node n (nxOf all rest next)) (Norm.nodes all false rest next) := by
  rw [Norm.nodes]; rfl

theorem gen_nodes_cons (all a : Bool) (n : Node) (rest : Nodes) (next : Bool) :
    Gen.genNodes all a (.cons n rest) next =
      if n.isWs && (all || a || rest.allWs) then Gen.genNodes all a rest next
      else Gen.genNode n (nxOf all rest next) ++ Gen.genNodes all false rest next := by
  rw [Gen.genNodes]; rfl

theorem node_isWs (n : Node) (nx : Bool) : (Norm.node n nx).isWs = n.isWs := by
  cases n <;> rfl

theorem node_inline (n : Node) (nx : Bool) : Sem.Node.inline (Norm.node n nx) = Sem.Node.inline n := by
  cases n <;> rfl

theorem node_trail (n : Node) (nx : Bool) : Sem.Node.trail (Norm.node n nx) = Norm.keep n nx := by
  cases n with
  | forE | ifE | switchE => cases nx <;> rfl
  | _ => rfl

theorem nodes_of_allWs (all a : Bool) : (ns : Nodes) → (next : Bool) → ns.allWs = true →
    Norm.nodes all a ns next = .nil
  | .nil, _, _ => by simp only [Norm.nodes]
  | .cons n rest, next, h => by
    simp only [Nodes.allWs, Bool.and_eq_true] at h
    rw [norm_nodes_cons, h.1, h.2]
    simp only [Bool.or_true, Bool.and_true, if_true]
    exact nodes_of_allWs all a rest next h.2

theorem nodes_allWs (all a : Bool) : (ns : Nodes) → (next : Bool) →
    (Norm.nodes all a ns next).allWs = ns.allWs
  | .nil, _ => by simp only [Norm.nodes]
  | .cons n rest, next => by
    rw [norm_nodes_cons]
    split
    next h =>
      simp only [Bool.and_eq_true] at h
      rw [nodes_allWs all a rest next]
      simp only [Nodes.allWs, h.1, Bool.true_and]
    next h =>
      simp only [Nodes.allWs, node_isWs]
      rw [nodes_allWs all false rest next]

theorem nodes_isNil (all a : Bool) : (ns : Nodes) → (next : Bool) →
    (Norm.nodes all a ns next).isNil = true → ns.allWs = true
  | ns, next, h => by
    rw [← nodes_allWs all a ns next]
    generalize Norm.nodes all a ns next = N at h
    cases N with
    | nil => rfl
    | cons _ _ => cases h

theorem allWs_eq_isNone : (ns : Nodes) → ns.allWs = ns.firstNonWs.isNone
  | .nil => rfl
  | .cons n rest => by
    simp only [Nodes.allWs, Nodes.firstNonWs]
    cases n.isWs
    · rfl
    · simpa using allWs_eq_isNone rest

theorem firstNonWs_some : (ns : Nodes) → (m : Node) → ns.firstNonWs = some m → ns.allWs = false
  | ns, m, h => by rw [allWs_eq_isNone, h]; rfl

/-- what decides the flag (the first node that is not white space; in a control-flow body the head) is kept -/
theorem nxOf_nodes (all : Bool) : (rest : Nodes) → (next : Bool) →
    nxOf all (Norm.nodes all false rest next) next = nxOf all rest next
  | .nil, _ => rfl
  | .cons n r, next => by
    rw [norm_nodes_cons]
    split
    next hc =>
      simp only [Bool.and_eq_true, Bool.or_eq_true, Bool.false_eq_true, or_false] at hc
      cases all with
      | true =>
        rw [nxOf_nodes true r next]
        simp only [nxOf, Nodes.firstNonWs, hc.1, if_true]
      | false =>
        have hr : r.allWs = true := by simpa using hc.2
        rw [nodes_of_allWs false false r next hr]
        simp only [nxOf, Nodes.allWs, hc.1, hr, Bool.and_self, Bool.false_eq_true, if_false, if_true]
    next hc =>
      cases all with
      | true =>
        have hn : n.isWs = false := by simpa using hc
        simp only [nxOf, Nodes.firstNonWs, node_isWs, hn, Bool.false_eq_true, if_false, if_true, node_inline]
      | false =>
        have hA : (n.isWs && r.allWs) = false := by simpa using hc
        simp only [nxOf, Nodes.allWs, node_isWs, nodes_allWs, hA, Bool.false_eq_true, if_false, Nodes.head?, Sem.optInline,
          node_inline]

mutual
theorem attr_idem : (a : Attr) → Norm.attr (Norm.attr a) = Norm.attr a := by
  intro a
  cases a with
  | cond e thn els => simp only [Norm.attr, attrs_idem]
  | _ => rfl
theorem attrs_idem : (as : Attrs) → Norm.attrs (Norm.attrs as) = Norm.attrs as
  | .nil => by simp only [Norm.attrs]
  | .cons a as => by simp only [Norm.attrs, attr_idem, attrs_idem]
end

mutual
theorem genAttr_norm (css : Bool) (el : Bytes) : (a : Attr) → Gen.genAttr css el (Norm.attr a) = Gen.genAttr css el a := by
  intro a
  cases a with
  | cond e thn els => simp only [Norm.attr, Gen.genAttr, genAttrs_norm]
  | _ => rfl
theorem genAttrs_norm (css : Bool) (el : Bytes) : (as : Attrs) → Gen.genAttrs css el (Norm.attrs as) = Gen.genAttrs css el as
  | .nil => by simp only [Norm.attrs]
  | .cons a as => by simp only [Norm.attrs, Gen.genAttrs, genAttr_norm, genAttrs_norm]
end

mutual
theorem cssHoistOne_norm : (a : Attr) → Gen.cssHoistOne (Norm.attr a) = Gen.cssHoistOne a := by
  intro a
  cases a with
  | cond e thn els => simp only [Norm.attr, Gen.cssHoistOne, cssHoist_norm]
  | _ => rfl
theorem cssHoist_norm : (as : Attrs) → Gen.cssHoist (Norm.attrs as) = Gen.cssHoist as
  | .nil => by simp only [Norm.attrs]
  | .cons a as => by simp only [Norm.attrs, Gen.cssHoist, cssHoistOne_norm, cssHoist_norm]
end

mutual
theorem scriptExprsOne_norm : (a : Attr) → Gen.scriptExprsOne (Norm.attr a) = Gen.scriptExprsOne a := by
  intro a
  cases a with
  | cond e thn els => simp only [Norm.attr, Gen.scriptExprsOne, scriptExprs_norm]
  | _ => rfl
theorem scriptExprs_norm : (as : Attrs) → Gen.scriptExprs (Norm.attrs as) = Gen.scriptExprs as
  | .nil => by simp only [Norm.attrs]
  | .cons a as => by simp only [Norm.attrs, Gen.scriptExprs, scriptExprsOne_norm, scriptExprs_norm]
end

theorem scriptHoist_norm (as : Attrs) : Gen.scriptHoist (Norm.attrs as) = Gen.scriptHoist as := by
  unfold Gen.scriptHoist; rw [scriptExprs_norm]

theorem openTag_norm (css : Bool) (name : Bytes) (as : Attrs) :
    Gen.openTag css name (Norm.attrs as) = Gen.openTag css name as := by
  cases as with
  | nil => simp only [Norm.attrs]
  | cons a as =>
    rw [Norm.attrs]
    simp only [Gen.openTag]
    rw [← Norm.attrs, cssHoist_norm, scriptHoist_norm, genAttrs_norm]

theorem keep_norm (n : Node) (nx : Bool) : Norm.keep (Norm.node n nx) nx = Norm.keep n nx := by
  unfold Norm.keep
  rw [node_inline, node_trail]
  unfold Norm.keep
  cases Sem.Node.inline n <;> cases nx <;> cases Sem.Node.trail n <;> rfl

theorem trailing_norm (n : Node) (nx : Bool) : Gen.trailing (Norm.node n nx) nx = Gen.trailing n nx := by
  unfold Gen.trailing
  rw [node_inline, node_trail]
  unfold Norm.keep
  cases Sem.Node.inline n <;> cases nx <;> cases Sem.Node.trail n <;> rfl

theorem nonNil_isNil (all a : Bool) (b : Nodes) (next : Bool) :
    (Norm.nonNil b (Norm.nodes all a b next)).isNil = b.isNil := by
  cases b with
  | nil => rfl
  | cons n ns => unfold Norm.nonNil; cases Norm.nodes all a (.cons n ns) next <;> rfl

theorem nonNil_elim {α} (F : Nodes → α) (h : F (.cons (.ws []) .nil) = F .nil) (orig N : Nodes) :
    F (Norm.nonNil orig N) = F N := by
  unfold Norm.nonNil
  split
  next hc =>
    cases N with
    | nil => exact h
    | cons _ _ => simp [Nodes.isNil] at hc
  next => rfl

theorem nonNil_congr (orig : Nodes) {orig' N : Nodes} (h : orig'.isNil = orig.isNil) :
    Norm.nonNil orig' N = Norm.nonNil orig N := by
  unfold Norm.nonNil; rw [h]

mutual
theorem node_idem : (n : Node) → (nx : Bool) → Norm.node (Norm.node n nx) nx = Norm.node n nx
  | n, nx => by
    cases n with
    | element n as cs t ia ic =>
      have hk := keep_norm (.element n as cs t ia ic) nx
      simp only [Norm.node] at hk ⊢
      rw [hk, attrs_idem]
      split
      · rw [nonNil_elim (Norm.nodes true true · false) rfl, nodes_idem, nonNil_congr cs (nonNil_isNil ..)]
      · rw [nodes_idem]
    | raw _ as _ => simp only [Norm.node, attrs_idem]
    | script as _ => simp only [Norm.node, attrs_idem]
    | forE e b => exact congrArg (Node.forE e) (nodes_idem ..)
    | templEl e b =>
      simp only [Norm.node]
      rw [nonNil_elim (Norm.nodes false true · false) rfl, nodes_idem, nonNil_congr b (nonNil_isNil ..)]
    | ifE e thn elifs els =>
      simp only [Norm.node, nodes_idem, elifs_idem]
    | switchE e cs => exact congrArg (Node.switchE e) (cases_idem ..)
    | strExpr e t => exact congrArg (Node.strExpr e) (keep_norm (.strExpr e t) nx)
    | text v t => exact congrArg (Node.text v) (keep_norm (.text v t) nx)
    | ws v => cases v <;> rfl
    | _ => rfl
theorem nodes_idem (all a : Bool) : (ns : Nodes) → (next : Bool) →
    Norm.nodes all a (Norm.nodes all a ns next) next = Norm.nodes all a ns next
  | .nil, _ => by simp only [Norm.nodes]
  | .cons n rest, next => by
    rw [norm_nodes_cons all a n]
    split
    next hc => exact nodes_idem ..
    next hc =>
      rw [norm_nodes_cons, node_isWs, nodes_allWs, if_neg hc, nxOf_nodes, node_idem, nodes_idem]
theorem elifs_idem : (es : ElseIfs) → (next : Bool) → Norm.elseIfs (Norm.elseIfs es next) next = Norm.elseIfs es next
  | .nil, _ => by simp only [Norm.elseIfs]
  | .cons e thn rest, nx => by simp only [Norm.elseIfs, nodes_idem, elifs_idem]
theorem cases_idem : (cs : Cases) → (next : Bool) → Norm.cases (Norm.cases cs next) next = Norm.cases cs next
  | .nil, _ => by simp only [Norm.cases]
  | .cons e b rest, nx => by simp only [Norm.cases, nodes_idem, cases_idem]
end

mutual
theorem genNode_norm : (n : Node) → (nx : Bool) → Gen.genNode (Norm.node n nx) nx = Gen.genNode n nx
  | n, nx => by
    cases n with
    | element n as cs t ia ic =>
      have ht := trailing_norm (.element n as cs t ia ic) nx
      simp only [Norm.node] at ht
      simp only [Norm.node, Gen.genNode]
      rw [ht, openTag_norm]
      cases hv : Sem.isVoid n with
      | true =>
        simp only [if_true]
        rw [nonNil_elim (Gen.genNodes true true · false) rfl, genNodes_norm, nonNil_isNil]
      | false =>
        simp only [Bool.false_eq_true, if_false, Bool.false_and]
        rw [genNodes_norm]
    | raw _ as _ => simp only [Norm.node, Gen.genNode, openTag_norm]
    | script as _ =>
      cases as with
      | nil => simp only [Norm.node, Norm.attrs]
      | cons a as =>
        simp only [Norm.node, Gen.genNode]
        rw [Norm.attrs]
        simp only []
        rw [← Norm.attrs, scriptHoist_norm, genAttrs_norm]
    | forE e b => simp only [Norm.node, Gen.genNode, genNodes_norm]
    | templEl e b =>
      simp only [Norm.node, Gen.genNode]
      rw [nonNil_elim (Gen.genNodes false true · false) rfl, genNodes_norm, nonNil_isNil]
    | ifE e thn elifs els =>
      simp only [Norm.node, Gen.genNode, genNodes_norm, genElifs_norm]
    | switchE e cs => simp only [Norm.node, Gen.genNode, genCases_norm]
    | strExpr e t => exact congrArg (Gen.Frags.append _) (trailing_norm (.strExpr e t) nx)
    | text v t => exact congrArg (Gen.Frags.append _) (trailing_norm (.text v t) nx)
    | ws v => cases v <;> rfl
    | _ => rfl
theorem genNodes_norm (all a : Bool) : (ns : Nodes) → (next : Bool) →
    Gen.genNodes all a (Norm.nodes all a ns next) next = Gen.genNodes all a ns next
  | .nil, _ => by simp only [Norm.nodes]
  | .cons n rest, next => by
    rw [norm_nodes_cons all a, gen_nodes_cons all a n]
    split
    next hc => exact genNodes_norm ..
    next hc =>
      rw [gen_nodes_cons, node_isWs, nodes_allWs, if_neg hc, nxOf_nodes, genNode_norm, genNodes_norm]
theorem genElifs_norm : (es : ElseIfs) → (next : Bool) → Gen.genElifs (Norm.elseIfs es next) next = Gen.genElifs es next
  | .nil, _ => by simp only [Norm.elseIfs]
  | .cons e thn rest, nx => by simp only [Norm.elseIfs, Gen.genElifs, genNodes_norm, genElifs_norm]
theorem genCases_norm : (cs : Cases) → (next : Bool) → Gen.genCases (Norm.cases cs next) next = Gen.genCases cs next
  | .nil, _ => by simp only [Norm.cases]
  | .cons e b rest, nx => by simp only [Norm.cases, Gen.genCases, genNodes_norm, genCases_norm]
end

theorem gen_norm (b : Nodes) : Gen.genTemplate (Norm.body b) = Gen.genTemplate b :=
  genNodes_norm true true b false

end TemplVerif.Proofs.Norm
