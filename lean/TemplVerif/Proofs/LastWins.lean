import TemplVerif.Proofs.Bytes
/- Tables in which a later entry for the same key wins (Go map assignment), modelled as lists searched from the end. -/
namespace TemplVerif.Proofs.LastWins

variable {α : Type _} {β : Type _} {p : α → Bool}

theorem find?_reverse_append_of_none (pre new : List α) (h : ∀ e ∈ new, p e = false) :
    (pre ++ new).reverse.find? p = pre.reverse.find? p := by
  rw [List.reverse_append, List.find?_append, List.find?_eq_none.mpr (by simpa using h), Option.none_or]

theorem find?_reverse_append_of_mem {f : α → β} (pre : List α) {new : List α} {e : α} (he : e ∈ new) (hp : p e = true)
    (h : ∀ e' ∈ new, p e' = true → f e' = f e) : ((pre ++ new).reverse.find? p).map f = some (f e) := by
  rw [List.reverse_append, List.find?_append]
  cases hf : new.reverse.find? p with
  | none => exact absurd hp (List.find?_eq_none.mp hf e (List.mem_reverse.mpr he))
  | some e' => simp [h e' (List.mem_reverse.mp (List.mem_of_find?_eq_some hf)) (List.find?_some hf)]

theorem mem_of_find?_reverse_eq_some {f : α → β} {l : List α} {b : β} (h : (l.reverse.find? p).map f = some b) :
    ∃ e ∈ l, p e = true ∧ f e = b := by
  obtain ⟨e, hf, rfl⟩ := Option.map_eq_some_iff.mp h
  exact ⟨e, List.mem_reverse.mp (List.mem_of_find?_eq_some hf), List.find?_some hf, rfl⟩

theorem eq_of_nodup_map {k : α → β} {l : List α} (h : (l.map k).Nodup) {x y : α} (hx : x ∈ l) (hy : y ∈ l)
    (hk : k x = k y) : x = y := by
  induction l with
  | nil => cases hx
  | cons a l ih =>
    rw [List.map_cons, List.nodup_cons] at h
    rcases List.mem_cons.mp hx with rfl | hx' <;> rcases List.mem_cons.mp hy with rfl | hy'
    · rfl
    · exact absurd (hk ▸ List.mem_map_of_mem hy') h.1
    · exact absurd (hk ▸ List.mem_map_of_mem hx') h.1
    · exact ih h.2 hx' hy'

end TemplVerif.Proofs.LastWins
