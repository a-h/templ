import TemplVerif.Base.Bytes
/-
Instance search reaches `LawfulBEq UInt8` (and `ReflBEq` of bytes and of runes) only after a walk through the order
classes of `Std`, and `simp` asks for it at every `==`, `contains` and `∈`, in every theorem anew. Found once here, so
that the search ends at its first step.
-/
namespace TemplVerif

instance : LawfulBEq UInt8 := inferInstance
instance : ReflBEq UInt8 := inferInstance
instance : ReflBEq Nat := inferInstance

end TemplVerif
