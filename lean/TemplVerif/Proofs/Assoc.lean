import TemplVerif.Proofs.Bytes
/-
Association lists read with `List.lookup`: what the file tree of C15 and the document store of C17 both are.
-/
namespace TemplVerif.Assoc
variable {α β} [BEq α] [LawfulBEq α] [DecidableEq α]

theorem lookup_cons (a : α) (b : β) (l : List (α × β)) (q : α) :
    ((a, b) :: l).lookup q = if q = a then some b else l.lookup q := by
  rw [List.lookup_cons]
  by_cases h : q = a
  · simp [h]
  · rw [beq_false_of_ne h, if_neg h]

theorem lookup_filter_ne (l : List (α × β)) (k q : α) :
    (l.filter fun e => !(e.1 == k)).lookup q = if q = k then none else l.lookup q := by
  induction l with
  | nil => exact (ite_self _).symm
  | cons x l ih =>
    obtain ⟨a, b⟩ := x
    by_cases hx : a = k
    · subst hx
      rw [List.filter_cons_of_neg (by simp), ih, lookup_cons]
      by_cases hq : q = a
      · rw [if_pos hq, if_pos hq]
      · rw [if_neg hq, if_neg hq, if_neg hq]
    · rw [List.filter_cons_of_pos (by simpa using hx), lookup_cons, lookup_cons, ih]
      by_cases hq : q = a
      · rw [if_pos hq, if_pos hq, if_neg (hq ▸ hx)]
      · rw [if_neg hq, if_neg hq]

theorem find?_fst_eq_lookup (l : List (α × β)) (k : α) : (l.find? (·.1 == k)).map (·.2) = l.lookup k := by
  induction l with
  | nil => rfl
  | cons x l ih =>
    obtain ⟨a, b⟩ := x
    rw [lookup_cons, List.find?_cons]
    by_cases h : a = k
    · simp [h]
    · simp only [beq_false_of_ne h, ih, if_neg (Ne.symm h)]

end TemplVerif.Assoc
