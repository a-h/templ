import TemplVerif.Model.Watch
import TemplVerif.Proofs.Bytes
/-
C16, between an edit and the running program: the handler's guarded write of the text file, the program's cache of it,
and the flags of one window of the watch loop.
-/
namespace TemplVerif.Proofs.Watch
open TemplVerif TemplVerif.Quote TemplVerif.Watch

/-- The remembered digest is of the text on disk. -/
def Current (key : List Bytes → Bytes) (g : Guard) : Prop :=
  ∀ l, g.last = some (key l) → g.disk = some (textFile l)

variable {key : List Bytes → Bytes} {g : Guard}

theorem step_last (key : List Bytes → Bytes) (g : Guard) (l : List Bytes) : (g.step key l).1.last = some (key l) := by
  by_cases hc : (g.last == some (key l)) = true
  · rw [Guard.step, if_pos hc]
    exact eq_of_beq hc
  · rw [Guard.step, if_neg hc]

theorem Current.step (hk : ∀ a b, key a = key b → textFile a = textFile b) (h : Current key g) (e : List Bytes) :
    Current key (g.step key e).1 := by
  intro l hl
  by_cases hc : (g.last == some (key e)) = true
  · rw [Guard.step, if_pos hc] at hl ⊢
    exact h l hl
  · rw [Guard.step, if_neg hc] at hl ⊢
    exact congrArg some (hk e l (Option.some.inj hl))

theorem Current.run (hk : ∀ a b, key a = key b → textFile a = textFile b) (h : Current key g) (es : List (List Bytes)) :
    Current key (Guard.run key g es) := by
  induction es generalizing g with
  | nil => exact h
  | cons e es ih => exact ih (h.step hk e)

theorem run_concat (key : List Bytes → Bytes) (g : Guard) (es : List (List Bytes)) (e : List Bytes) :
    Guard.run key g (es ++ [e]) = ((Guard.run key g es).step key e).1 := by
  induction es generalizing g with
  | nil => rfl
  | cons x xs ih => exact ih _

theorem loadMtime_inv {f : File} {now : Nat} : Inv (loadMtime f now) f :=
  ⟨Nat.le_refl _, fun _ => rfl⟩

theorem look_inv {throttle : Nat} {c : Cache} {f : File} {now : Nat} (hi : Inv c f) :
    Inv (look loadMtime throttle c f now) f := by
  unfold look
  split
  · exact hi
  · split
    · exact hi
    · exact loadMtime_inv

theorem look_lines {throttle : Nat} {c : Cache} {f : File} {now : Nat} (hi : Inv c f) (hn : f.mtime + throttle ≤ now) :
    (look loadMtime throttle c f now).lines = f.lines := by
  obtain ⟨h1, h2⟩ := hi
  have ht : throttle ≤ now - c.time :=
    Nat.le_sub_of_add_le (Nat.le_trans (Nat.add_le_add_left h1 _) (Nat.add_comm _ _ ▸ hn))
  rw [look, if_neg (Nat.not_lt.mpr ht)]
  by_cases hgt : f.mtime > c.time
  · rw [if_neg (by simp [hgt])]; rfl
  · rw [if_pos (by simp [hgt])]
    exact h2 (Nat.le_antisymm h1 (Nat.le_of_not_gt hgt))

theorem foldl_or {α} (f g : α → Bool) (l : List α) (acc : Bool × Bool) :
    l.foldl (fun acc e => (acc.1 || f e, acc.2 || g e)) acc = (acc.1 || l.any f, acc.2 || l.any g) := by
  induction l generalizing acc with
  | nil => simp
  | cons e es ih => simp only [List.foldl_cons, List.any_cons, ih, Bool.or_assoc]

theorem window_eq (evs : List Ev) : window evs = (evs.any (·.goUpdated), evs.any (·.textUpdated)) := by
  rw [window, foldl_or]
  rfl

end TemplVerif.Proofs.Watch
