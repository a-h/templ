import TemplVerif.Model.Doc
import TemplVerif.Proofs.Lines
/-
C17. A position cuts a document into the lines `before` it and the lines `after` it. Every branch of `Doc.apply` computes
`before start`, the lines of the text and `after end` run together (`cat`), and that is `splitLF` of the editor's splice.
-/
namespace TemplVerif.Proofs.Doc
open TemplVerif TemplVerif.Doc

theorem line_cons_succ (h : Bytes) (t : Doc) (n : Nat) : line (h :: t) (n + 1) = line t n := rfl

theorem line_cons_zero (h : Bytes) (t : Doc) : line (h :: t) 0 = h := rfl

theorem drop_line {d : Doc} {l : Nat} (hl : l < d.length) : d.drop l = line d l :: d.drop (l + 1) := by
  rw [List.drop_eq_getElem_cons hl]
  simp [line, hl]

theorem set_append_cons {α} {A : List α} {i : Nat} (h : A.length = i) (x y : α) (B : List α) :
    (A ++ x :: B).set i y = A ++ y :: B := by
  subst h; simp

def before (d : Doc) (p : Pos) : List Bytes := d.take p.line ++ [(line d p.line).take p.char]
def after (d : Doc) (p : Pos) : List Bytes := (line d p.line).drop p.char :: d.drop (p.line + 1)

theorem before_ne_nil {d : Doc} {p : Pos} : before d p ≠ [] := by
  simp [before]

theorem after_ne_nil {d : Doc} {p : Pos} : after d p ≠ [] := List.cons_ne_nil _ _

theorem cat_before (d : Doc) (p : Pos) (x : Bytes) (B : List Bytes) :
    cat (before d p) (x :: B) = d.take p.line ++ ((line d p.line).take p.char ++ x) :: B :=
  cat_append _ (by simp) _

theorem cat_before_after {d : Doc} {p : Pos} (hp : p.line < d.length) : cat (before d p) (after d p) = d := by
  rw [after, cat_before, List.take_append_drop, ← drop_line hp, List.take_append_drop]

theorem before_append {A : List Bytes} {p : Pos} (h : A.length = p.line) (x : Bytes) (B : List Bytes) :
    before (A ++ x :: B) p = A ++ [x.take p.char] := by
  simp [before, ← h, line]

theorem after_append {A : List Bytes} {p : Pos} (h : A.length = p.line) (x : Bytes) (B : List Bytes) :
    after (A ++ x :: B) p = x.drop p.char :: B := by
  simp [after, ← h, line]

theorem length_before {d : Doc} {p : Pos} (hl : p.line < d.length) (hc : p.char ≤ lineLen d p.line) :
    (joinLF (before d p)).length = offset d p := by
  obtain ⟨l, c⟩ := p
  induction d generalizing l with
  | nil => cases hl
  | cons h t ih =>
    cases l with
    | zero => exact List.length_take_of_le hc
    | succ n =>
      have := ih n (Nat.lt_of_succ_lt_succ hl) hc
      rw [before, List.take_succ_cons, List.cons_append, joinLF_cons _ (by simp), List.length_append, List.length_cons]
      show _ + (_ + 1) = h.length + 1 + offset t ⟨n, c⟩
      rw [← this, Nat.add_comm _ 1, Nat.add_assoc]
      rfl

theorem text_cut {d : Doc} {p : Pos} (hl : p.line < d.length) (hc : p.char ≤ lineLen d p.line) :
    (joinLF d).take (offset d p) = joinLF (before d p) ∧ (joinLF d).drop (offset d p) = joinLF (after d p) := by
  have h : joinLF d = joinLF (before d p) ++ joinLF (after d p) := by
    rw [← joinLF_cat before_ne_nil after_ne_nil, cat_before_after hl]
  rw [h]
  exact ⟨List.take_left' (length_before hl hc), List.drop_left' (length_before hl hc)⟩

theorem delete_eq {d : Doc} {s : Pos} (e : Pos) (hs : s.line < d.length) (he : e.line < d.length) :
    delete d s.line s.char e.line e.char = cat (before d s) (after d e) := by
  rw [after, cat_before, delete, deleteLines, drop_line he]
  exact set_append_cons (List.length_take_of_le (Nat.le_of_lt hs)) ..

/-- `Insert` sets the last of the lines it has put in: the index is counted from the front. -/
theorem set_last {A W B : List Bytes} (hW : W ≠ []) (x : Bytes) :
    (A ++ W ++ B).set (A.length + (W.length - 1)) (W.getLast?.getD [] ++ x) = A ++ cat W (x :: B) := by
  rcases List.eq_nil_or_concat W with rfl | ⟨I, w, rfl⟩
  · exact absurd rfl hW
  · rw [List.concat_eq_append, cat_append _ (by simp)]
    simp [cat]

theorem insert_eq {d : Doc} {p : Pos} {ws : List Bytes} (hp : p.line < d.length) (hw : ws ≠ []) :
    Doc.insert d p.line p.char ws = cat (cat (before d p) ws) (after d p) := by
  obtain ⟨w, ws, rfl⟩ := List.exists_cons_of_ne_nil hw
  have hlen := List.length_take_of_le (Nat.le_of_lt hp)
  rw [cat_before, cat_append _ (List.cons_ne_nil _ _), after, ← set_last (List.cons_ne_nil _ _), Doc.insert]
  simp only [hlen, List.length_cons, Nat.add_sub_cancel]
  congr 1
  rw [List.set_eq_take_append_cons_drop, if_pos hp]
  split
  · -- nothing more than `w` was put in
    next he => rw [List.isEmpty_iff.mp he]; exact List.append_cons ..
  · rw [insertLines, List.append_cons (d.take p.line), List.take_left' (by simp [hlen]), List.drop_left' (by simp [hlen])]
    simp

theorem setLast_eq_cat {ws : List Bytes} (hw : ws ≠ []) (x : Bytes) : setLast ws (· ++ x) = cat ws [x] := by
  rcases List.eq_nil_or_concat ws with rfl | ⟨I, w, rfl⟩
  · exact absurd rfl hw
  · rw [List.concat_eq_append, cat_append _ (by simp)]
    simp [setLast, cat]

theorem overwrite_eq {d : Doc} {s e : Pos} {ws : List Bytes} (hs : s.line < d.length) (he : e.line < d.length)
    (hw : ws ≠ []) :
    overwrite d s.line s.char e.line e.char ws = cat (cat (before d s) ws) (after d e) := by
  have hlen := List.length_take_of_le (Nat.le_of_lt hs)
  have hd := delete_eq ⟨e.line, lineLen d e.line⟩ hs he
  rw [after, cat_before] at hd
  simp only [lineLen, List.drop_length, List.append_nil] at hd
  have h1 : s.line < (d.take s.line ++ (line d s.line).take s.char :: d.drop (e.line + 1)).length := by
    rw [List.length_append, hlen, List.length_cons]; exact Nat.lt_add_of_pos_right (Nat.succ_pos _)
  have h2 : setLast ws (· ++ (line d e.line).drop e.char) ≠ [] := by
    rw [setLast_eq_cat hw]; exact cat_ne_nil hw _
  rw [overwrite, lineLen, hd, insert_eq h1 h2,
    setLast_eq_cat hw, before_append hlen, after_append hlen, List.take_take, Nat.min_self, List.drop_take_self,
    ← before, ← cat_assoc, cat_assoc _ [_], after]
  simp only [cat, List.headD_cons, List.tail_cons, List.append_nil]

theorem normPos_spec {d : Doc} (hd : d ≠ []) (p : Pos) :
    (normPos d p).line < d.length ∧ (normPos d p).char ≤ lineLen d (normPos d p).line := by
  unfold normPos
  by_cases h1 : p.line ≥ d.length
  · simp only [h1, if_true, Nat.lt_irrefl, if_false]
    exact ⟨Nat.sub_lt (List.length_pos_iff.mpr hd) Nat.one_pos, Nat.le_refl _⟩
  · simp only [h1, if_false]
    by_cases h2 : p.char > lineLen d p.line
    · rw [if_pos h2]; exact ⟨Nat.lt_of_not_le h1, Nat.le_refl _⟩
    · rw [if_neg h2]; exact ⟨Nat.lt_of_not_le h1, Nat.le_of_not_gt h2⟩

theorem isWhole_iff {d : Doc} {r : Rng} :
    isWhole d r = true ↔ r.start = ⟨0, 0⟩ ∧ r.stop = ⟨d.length - 1, lineLen d (d.length - 1)⟩ := by
  obtain ⟨⟨a, b⟩, ⟨c, e⟩⟩ := r
  simp only [isWhole, Pos.mk.injEq, bne_iff_ne, ne_eq, Bool.or_eq_true]
  by_cases h : a = 0 ∧ b = 0
  · rw [if_neg (by simp [h])]; simp [h]
  · rw [if_pos (Classical.not_and_iff_not_or_not.mp h)]; simp [h]

theorem isEmptyRange_iff {r : Rng} : isEmptyRange r = true ↔ r.stop = r.start := by
  obtain ⟨⟨_, _⟩, ⟨_, _⟩⟩ := r
  simp only [isEmptyRange, Bool.and_eq_true, beq_iff_eq, Pos.mk.injEq]
  exact and_congr_right' eq_comm

theorem apply_some_eq {d : Doc} (hd : d ≠ []) (r : Rng) (txt : Bytes) :
    Doc.apply d (some r) txt
      = cat (cat (before d (normalize d r).start) (splitLF txt)) (after d (normalize d r).stop) := by
  have hs : (normalize d r).start.line < d.length := (normPos_spec hd r.start).1
  have he : (normalize d r).stop.line < d.length := (normPos_spec hd r.stop).1
  have hw := splitLF_ne_nil txt
  simp only [Doc.apply]
  generalize normalize d r = n at hs he ⊢
  cases hW : isWhole d n
  · cases hE : isEmptyRange n <;> cases txt
    · exact (delete_eq _ hs he).trans (by rw [show splitLF [] = [[]] from rfl, cat_line_right before_ne_nil])
    · exact overwrite_eq hs he hw
    · rw [isEmptyRange_iff.mp hE, show splitLF [] = [[]] from rfl, cat_line_right before_ne_nil,
        cat_before_after hs]
      rfl
    · rw [isEmptyRange_iff.mp hE]
      exact insert_eq hs hw
  · obtain ⟨h1, h2⟩ := isWhole_iff.mp hW
    have : d.length - 1 + 1 = d.length := Nat.sub_add_cancel (List.length_pos_iff.mpr hd)
    rw [h1, h2, before, after, lineLen, this, List.drop_length, List.drop_length, cat_line_right (cat_ne_nil (by simp) _)]
    exact (cat_line_left hw).symm

theorem noLF_line {d : Doc} (h : ∀ l ∈ d, (10 : UInt8) ∉ l) {n : Nat} : (10 : UInt8) ∉ line d n := by
  unfold line
  rw [List.getD_eq_getElem?_getD]
  cases hn : d[n]? with
  | none => simp
  | some x => exact h x (List.mem_of_getElem? hn)

theorem noLF_before {d : Doc} (h : ∀ l ∈ d, (10 : UInt8) ∉ l) {p : Pos} : ∀ l ∈ before d p, (10 : UInt8) ∉ l := by
  intro l hl
  rcases List.mem_append.mp hl with hl | hl
  · exact h l (List.mem_of_mem_take hl)
  · rw [List.mem_singleton.mp hl]
    exact fun hm => noLF_line h (List.mem_of_mem_take hm)

theorem noLF_after {d : Doc} (h : ∀ l ∈ d, (10 : UInt8) ∉ l) {p : Pos} : ∀ l ∈ after d p, (10 : UInt8) ∉ l := by
  intro l hl
  rcases List.mem_cons.mp hl with rfl | hl
  · exact fun hm => noLF_line h (List.mem_of_mem_drop hm)
  · exact h l (List.mem_of_mem_drop hl)

/-- Reversed ranges included: the `ordered` hypotheses of `C17_main` and `C17_hist` are not used. -/
theorem apply_spec {d : Doc} (hd : WellFormed d) (r : Option Rng) (txt : Bytes) :
    Doc.apply d r txt = ofText (Editor.apply (text d) r txt) := by
  cases r with
  | none => rfl
  | some r =>
    have hs : (normalize d r).start.line < _ ∧ _ := normPos_spec hd.1 r.start
    have he : (normalize d r).stop.line < _ ∧ _ := normPos_spec hd.1 r.stop
    rw [apply_some_eq hd.1, Editor.apply, text, ofText]
    simp only [splitLF_joinLF hd.1 hd.2]
    rw [(text_cut hs.1 hs.2).1, (text_cut he.1 he.2).2, splitLF_append, splitLF_append,
      splitLF_joinLF before_ne_nil (noLF_before hd.2), splitLF_joinLF after_ne_nil (noLF_after hd.2)]

theorem ofText_wf_text (t : Bytes) : WellFormed (ofText t) ∧ text (ofText t) = t :=
  ⟨⟨splitLF_ne_nil t, splitLF_noLF t⟩, joinLF_splitLF t⟩

theorem hist (t₀ : Bytes) (cs : List Change) :
    cs.foldl (fun d c => Doc.apply d c.1 c.2) (ofText t₀)
      = ofText (cs.foldl (fun t c => Editor.apply t c.1 c.2) t₀) := by
  induction cs generalizing t₀ with
  | nil => rfl
  | cons c cs ih =>
    rw [List.foldl_cons, List.foldl_cons, apply_spec (ofText_wf_text t₀).1, (ofText_wf_text t₀).2, ih]

end TemplVerif.Proofs.Doc
