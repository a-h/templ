import TemplVerif.Model.Pool
import TemplVerif.Proofs.Buf
/-
C14 — every step of every schedule keeps `Pool.WellFormed`. That needs two facts about a render: it keeps the buffer's
capacity, and it depends on the buffer it was handed only through that capacity (`Proofs.Buf.render_pool_independent`).
-/
namespace TemplVerif.Proofs.Pool
open TemplVerif TemplVerif.Buf TemplVerif.Pool

theorem flush_cap (b : BW) : b.flush.cap = b.cap := (Proofs.Buf.flush_spec [] b).1.cap

theorem wsa_cap : ∀ (fuel : Nat) (b : BW) (p : Bytes), (BW.writeStringAux fuel b p).cap = b.cap := by
  intro fuel
  induction fuel with
  | zero => intro b p; rfl
  | succ fuel ih =>
    intro b p
    unfold BW.writeStringAux
    rcases b.u.writeChecked p with ⟨u', n, e⟩
    -- the capacity of a conditional is the conditional of the capacities, and every branch has `b.cap`
    simp only [apply_ite BW.cap, ih, flush_cap, ite_self]

theorem wa_cap : ∀ (fuel : Nat) (b : BW) (p : Bytes), (BW.writeAux fuel b p).cap = b.cap := by
  intro fuel
  induction fuel with
  | zero => intro b p; rfl
  | succ fuel ih =>
    intro b p
    unfold BW.writeAux
    rcases b.u.writeChecked p with ⟨u', n, e⟩
    simp only [apply_ite BW.cap, ih, flush_cap, ite_self]

theorem writeString_cap (b : BW) (p : Bytes) : (b.writeString p).cap = b.cap := wsa_cap _ b p

theorem write_cap (b : BW) (p : Bytes) : (b.write p).cap = b.cap := wa_cap _ b p

mutual
  theorem runOps_cap : ∀ (ops : List ROp) (b : BW), (runOps ops b).1.cap = b.cap
    | [], b => by rw [runOps]
    | op :: rest, b => by
      rw [Proofs.Buf.runOps_cons]
      split
      · rw [runOps_cap rest, runOp_cap]
      · exact runOp_cap op b
  theorem runOp_cap : ∀ (op : ROp) (b : BW), (runOp op b).1.cap = b.cap
    | .write p, b => by rw [runOp]; exact writeString_cap b p
    | .exprFail l, b => by rw [runOp]
    | .sub ops, b => by rw [runOp]; exact runOps_cap ops b
    | .subFail, b => by rw [runOp]
end

theorem render_cap (ops : List ROp) (b : BW) (u : Under) : (render false ops b u).1.cap = b.cap := by
  rw [Proofs.Buf.render_eq]
  simp only []
  rw [flush_cap, runOps_cap]
  rfl

theorem forall_mem_set {α : Type} {P : α → Prop} {l : List α} {i : Nat} {a : α} (hl : ∀ x ∈ l, P x) (ha : P a) :
    ∀ x ∈ l.set i a, P x :=
  fun x hx => (List.mem_or_eq_of_mem_set hx).elim (hl x) (· ▸ ha)

theorem step_wf {w : World} (a : Act) (h : WellFormed w) : WellFormed (step w a) ∧ (step w a).cap = w.cap := by
  obtain ⟨h1, h2, h3⟩ := h
  cases a with
  | get t i =>
    rw [step]
    split
    · exact ⟨⟨h1, h2, h3⟩, rfl⟩
    · rename_i th hth
      split
      · exact ⟨⟨h1, h2, h3⟩, rfl⟩
      · rename_i hg
        simp only [Bool.or_eq_true, not_or, Bool.not_eq_true, Option.isSome_eq_false_iff, Option.isNone_iff_eq_none] at hg
        refine ⟨⟨fun b hb => h1 b (List.mem_of_mem_eraseIdx hb), forall_mem_set h2 ?_, forall_mem_set h3 ?_⟩, rfl⟩
        · rintro b ⟨⟩
          cases hi : w.pool[i]? with
          | none => rfl
          | some b0 => exact h1 b0 (List.mem_of_getElem? hi)
        · intro r hr
          simp [hg.2] at hr
  | renderPut t =>
    rw [step]
    split
    · exact ⟨⟨h1, h2, h3⟩, rfl⟩
    · rename_i th hth
      split
      · exact ⟨⟨h1, h2, h3⟩, rfl⟩
      · rename_i b hhold
        have hbcap : b.cap = w.cap := h2 th (List.mem_of_getElem? hth) b hhold
        refine ⟨⟨?_, forall_mem_set h2 (by simp), forall_mem_set h3 ?_⟩, rfl⟩
        · intro b' hb'
          rcases List.mem_cons.mp hb' with rfl | hold
          · rw [render_cap, hbcap]
          · exact h1 b' hold
        · rintro r ⟨⟩
          rw [Proofs.Buf.render_pool_independent th.ops b th.writer, hbcap]
          rfl

theorem run_wf {w : World} (acts : List Act) (h : WellFormed w) : WellFormed (run w acts) ∧ (run w acts).cap = w.cap := by
  induction acts generalizing w with
  | nil => exact ⟨h, rfl⟩
  | cons a rest ih =>
    obtain ⟨hs, hc⟩ := step_wf a h
    obtain ⟨hr, hc'⟩ := ih hs
    exact ⟨hr, hc'.trans hc⟩

end TemplVerif.Proofs.Pool
