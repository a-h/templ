import TemplVerif.Model.Sse
import TemplVerif.Proofs.Bytes
/- C19 — what holds in every reachable state of the SSE broadcaster, for every wiring. -/
namespace TemplVerif.Proofs.Sse
open TemplVerif.Sse

/-- The repaired wiring: channel never closed by the handler, delivery selects on done. -/
def safeCfg : Cfg := ⟨false, true⟩

theorem step_no_panic {cfg : Cfg} (hcfg : cfg.closeOnExit = false) {s : State} {a : Action} :
    step cfg s a ≠ .panic := by
  cases a <;> simp only [step, hcfg, Bool.false_eq_true, if_false] <;> repeat' split
  all_goals exact nofun

theorem run_isSome {cfg : Cfg} (hcfg : cfg.closeOnExit = false) (s : State) (sched : List Action) :
    (run cfg s sched).isSome = true := by
  induction sched generalizing s with
  | nil => rfl
  | cons a rest ih =>
    simp only [run]
    split
    · exact ih _
    · exact ih _
    · exact absurd ‹_› (step_no_panic hcfg)

theorem findClient_id {s : State} {c : Nat} {cl : Client} (h : findClient s c = some cl) : cl.id = c := by
  simpa using List.find?_some h

theorem findClient_pending (s : State) (p : List (Nat × Nat)) (c : Nat) :
    findClient { s with pending := p } c = findClient s c := rfl

theorem findClient_append (s : State) (l : List Client) (c : Nat) :
    findClient { s with clients := s.clients ++ l } c = (findClient s c).or (l.find? (·.id == c)) :=
  List.find?_append

theorem findClient_updClient {s : State} {c c' : Nat} {f : Client → Client} (hf : ∀ cl, (f cl).id = cl.id) :
    findClient (updClient s c f) c' = if c' = c then (findClient s c).map f else findClient s c' := by
  have : ((·.id == c') ∘ fun cl => if cl.id == c then f cl else cl) = (·.id == c') :=
    funext fun cl => by simp only [Function.comp]; split <;> simp only [hf]
  unfold findClient updClient
  rw [List.find?_map, this]
  split
  · subst c'
    exact Option.map_congr fun cl h => if_pos (List.find?_some h)
  · refine (Option.map_congr fun cl h => if_neg fun hc => ‹¬c' = c› ?_).trans Option.map_id'
    rw [← findClient_id (s := s) h, beq_iff_eq.1 hc]

/-- Every (client, event) pair recorded at broadcast time is accounted for: the client has since been cancelled,
    or it received the event, or the delivery is still pending. -/
def Accounted (s : State) : Prop :=
  ∀ c e, (c, e) ∈ s.registeredAt →
    ∃ cl, findClient s c = some cl ∧ (cl.cancelled = true ∨ e ∈ cl.received ∨ (c, e) ∈ s.pending)

structure Inv (s : State) : Prop where
  accounted : Accounted s
  /-- a handler runs its exit path only after its context is done -/
  exitedCancelled : ∀ c cl, findClient s c = some cl → cl.exited = true → cl.cancelled = true

theorem inv_init : Inv {} := ⟨nofun, nofun⟩

theorem inv_updClient {s : State} (hi : Inv s) {c : Nat} {cl0 : Client} (hcl0 : findClient s c = some cl0)
    {f : Client → Client} (p : List (Nat × Nat)) (hid : ∀ cl, (f cl).id = cl.id)
    (hother : ∀ c' e', c' ≠ c → (c', e') ∈ s.pending → (c', e') ∈ p)
    (hacc : ∀ e, cl0.cancelled = true ∨ e ∈ cl0.received ∨ (c, e) ∈ s.pending →
      (f cl0).cancelled = true ∨ e ∈ (f cl0).received ∨ (c, e) ∈ p)
    (hex : (f cl0).exited = true → (f cl0).cancelled = true) :
    Inv (updClient { s with pending := p } c f) := by
  constructor <;> simp only [Accounted, findClient_updClient hid, findClient_pending]
  · intro c' e' hr
    obtain ⟨cl, hf, hd⟩ := hi.accounted c' e' hr
    split
    · subst c'; rw [hcl0] at hf ⊢; cases hf; exact ⟨_, rfl, hacc e' hd⟩
    · exact ⟨cl, hf, hd.imp_right (·.imp_right (hother c' e' ‹_›))⟩
  · intro c' cl hf hx
    split at hf
    · rw [hcl0] at hf; cases hf; exact hex hx
    · exact hi.exitedCancelled c' cl hf hx

theorem inv_step {cfg : Cfg} {s s' : State} {a : Action} (hi : Inv s) (hs : step cfg s a = .ok s') : Inv s' := by
  cases a with
  | subscribe c =>
    simp only [step] at hs
    split at hs <;> cases hs
    constructor <;> simp only [Accounted, findClient_append]
    · intro c' e' hr
      obtain ⟨cl, hf, hd⟩ := hi.accounted c' e' hr
      exact ⟨cl, by rw [hf]; rfl, hd⟩
    · intro c' cl hf hx
      cases h0 : findClient s c' with
      | some cl0 => rw [h0] at hf; cases hf; exact hi.exitedCancelled c' cl h0 hx
      | none =>
        rw [h0, Option.none_or] at hf
        obtain rfl := List.mem_singleton.1 (List.mem_of_find?_eq_some hf)
        cases hx
  | broadcast =>
    cases hs
    refine ⟨fun c' e' hr => ?_, hi.exitedCancelled⟩
    rcases List.mem_append.1 hr with hr | hr
    · obtain ⟨cl, hf, hd⟩ := hi.accounted c' e' hr
      exact ⟨cl, hf, hd.imp_right (·.imp_right (List.mem_append_left _))⟩
    · obtain ⟨x, hx, rfl⟩ : ∃ x ∈ s.clients, x.id = c' := by
        simp only [List.mem_map, List.mem_filter] at hr
        obtain ⟨_, ⟨x, hx, rfl⟩, h⟩ := hr
        exact ⟨x, hx.1, (Prod.mk.inj h).1⟩
      cases hf : findClient s x.id with
      | some cl => exact ⟨cl, hf, .inr (.inr (List.mem_append_right _ hr))⟩
      | none => exact absurd (beq_self_eq_true x.id) (List.find?_eq_none.1 hf x hx)
  | deliver c e =>
    rw [step] at hs
    -- `split` on this outer `if` is slow to check
    by_cases hp : (!s.pending.contains (c, e)) = true
    · rw [if_pos hp] at hs; cases hs
    rw [if_neg hp] at hs
    repeat' split at hs
    all_goals cases hs
    -- what `hs` leaves: the client found under `c`, not exited (`hx0`), not cancelled (`hc0`)
    rename_i cl0 hcl0 hx0 hc0
    -- the pair (c, e) leaves `pending` as e joins what c has received
    refine inv_updClient hi hcl0 _ (fun _ => rfl)
      (fun c' e' hc hm => (List.mem_erase_of_ne fun h => hc (Prod.mk.inj h).1).2 hm) (fun e' hd => ?_)
      fun hx => absurd hx hx0
    by_cases he : e' = e
    · exact .inr (.inl (he ▸ List.mem_append_right _ (List.mem_singleton_self _)))
    · exact hd.imp_right fun h => h.imp (List.mem_append_left _)
        (List.mem_erase_of_ne fun h => he (Prod.mk.inj h).2).2
  | drop c e =>
    simp only [step] at hs
    repeat' split at hs
    all_goals cases hs
    -- the client found under `c`, cancelled (`hc0`)
    rename_i cl0 hcl0 hc0
    refine ⟨fun c' e' hr => ?_, hi.exitedCancelled⟩
    obtain ⟨cl, hf, hd⟩ := hi.accounted c' e' hr
    -- the pair (c, e) leaves `pending`: c is cancelled
    by_cases hp : (c', e') = (c, e)
    · cases hp; exact ⟨cl0, hcl0, .inl hc0⟩
    · exact ⟨cl, hf, by rwa [List.mem_erase_of_ne hp]⟩
  | cancel c =>
    simp only [step] at hs
    repeat' split at hs
    all_goals cases hs
    rename_i cl0 hcl0 _
    exact inv_updClient hi hcl0 s.pending (fun _ => rfl) (fun _ _ _ h => h) (fun _ _ => .inl rfl) fun _ => rfl
  | exit c =>
    simp only [step] at hs
    repeat' split at hs
    all_goals cases hs
    -- `hg`: the guard of `exit` failed to disable it, `¬(!cancelled || exited)`
    rename_i cl0 hcl0 hg
    exact inv_updClient hi hcl0 s.pending (fun _ => rfl) (fun _ _ _ h => h) (fun _ h => h)
      fun _ => by simp at hg; exact hg.1

theorem inv_run {cfg : Cfg} {sched : List Action} {s s' : State} (hi : Inv s) (h : run cfg s sched = some s') :
    Inv s' := by
  induction sched generalizing s with
  | nil => cases h; exact hi
  | cons a rest ih =>
    simp only [run] at h
    split at h
    · exact ih (inv_step hi ‹_›) h
    · exact ih hi h
    · cases h

theorem can_drop {cfg : Cfg} (hcfg : cfg.selectDone = true) {s : State} (hi : Inv s) {c e : Nat}
    (hp : (c, e) ∈ s.pending) {cl : Client} (hc : findClient s c = some cl) (hx : cl.exited = true) :
    ∃ s', step cfg s (.drop c e) = .ok s' :=
  ⟨{ s with pending := s.pending.erase (c, e) }, by simp [step, hcfg, hp, hc, hi.exitedCancelled c cl hc hx]⟩

end TemplVerif.Proofs.Sse
