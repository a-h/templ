import TemplVerif.Model.Mux
import TemplVerif.Proofs.Frame
/-
C18 — frames of concurrent senders never interleave, under every schedule of single transport writes, as long as every
sender goes through `conn.write` (takes the write mutex).
-/
namespace TemplVerif.Proofs.Mux
open TemplVerif TemplVerif.Mux

/-- the writers all go through conn.write and have not started -/
def Fresh (ws : List Writer) : Prop := ∀ w ∈ ws, w.locked = true ∧ w.pc = .idle

/-- A writer as it was before it started: `s.writers.map reset = ws` says that steps move program counters only. -/
def reset (w : Writer) : Writer := { w with pc := .idle }

/-- Where writer `j` is in its program; `none`: no such writer. -/
def pcAt (l : List Writer) (j : Nat) : Option Pc := l[j]?.map (·.pc)

theorem pcAt_eq_some {l : List Writer} {i : Nat} {pc : Pc} : pcAt l i = some pc ↔ ∃ w, l[i]? = some w ∧ w.pc = pc :=
  Option.map_eq_some_iff

theorem getElem?_setPc (l : List Writer) (i j : Nat) (pc : Pc) :
    (setPc l i pc)[j]? = (l[j]?).map (fun w => if j = i then { w with pc := pc } else w) := by
  simp [setPc, List.getElem?_mapIdx]

theorem map_reset_setPc (l : List Writer) (i : Nat) (pc : Pc) : (setPc l i pc).map reset = l.map reset := by
  apply List.ext_getElem?
  intro j
  simp only [List.getElem?_map, getElem?_setPc, Option.map_map]
  congr 1
  funext w
  simp only [Function.comp]; split <;> rfl

theorem pcAt_setPc {l : List Writer} {i : Nat} {w : Writer} (h : l[i]? = some w) (pc : Pc) (j : Nat) :
    pcAt (setPc l i pc) j = if j = i then some pc else pcAt l j := by
  simp only [pcAt, getElem?_setPc, Option.map_map]
  split
  · subst j; rw [h]; rfl
  · rfl

/-- What the mutex holder has written of a frame it has not finished: its header, once written. -/
def pend (ws : List Writer) (holder : Option Nat) (l : List Writer) : Bytes :=
  match holder with
  | some h =>
    match ws[h]? with
    | some w => if pcAt l h = some .wroteHeader then w.header else []
    | none => []
  | none => []

theorem pend_none (ws l : List Writer) : pend ws none l = [] := rfl

theorem pend_some {ws l : List Writer} {h : Nat} {w : Writer} (hw : ws[h]? = some w) :
    pend ws (some h) l = if pcAt l h = some .wroteHeader then w.header else [] := by
  simp only [pend, hw]

theorem pend_cases (ws : List Writer) (s : State) :
    pend ws s.holder s.writers = [] ∨ ∃ h w, s.holder = some h ∧ ws[h]? = some w ∧
      pcAt s.writers h = some .wroteHeader ∧ pend ws s.holder s.writers = w.header := by
  unfold pend
  repeat' split
  all_goals first | exact .inl rfl | exact .inr ⟨_, _, ‹_›, ‹_›, ‹_›, rfl⟩

/-- `ws` are the writers at the start; `order` lists the finished ones as they finished. -/
structure Inv (ws : List Writer) (s : State) (order : List Nat) : Prop where
  same : s.writers.map reset = ws
  nodup : order.Nodup
  mem : ∀ i, i ∈ order ↔ pcAt s.writers i = some .done
  excl : ∀ i, pcAt s.writers i = some .hasLock ∨ pcAt s.writers i = some .wroteHeader → s.holder = some i
  out : s.out = (order.filterMap fun i => ws[i]?.map frameOf).flatten ++ pend ws s.holder s.writers

theorem inv_init {ws : List Writer} (hf : Fresh ws) : Inv ws { writers := ws } [] := by
  have hw : ∀ i pc, pcAt ws i = some pc → pc = .idle := fun i pc h => by
    obtain ⟨w, hw, rfl⟩ := pcAt_eq_some.1 h
    exact (hf w (List.mem_of_getElem? hw)).2
  refine ⟨?_, .nil, fun i => ⟨nofun, fun h => nomatch hw i _ h⟩, fun i hp => ?_, rfl⟩
  · exact (List.map_congr_left fun w h => by rw [reset, ← (hf w h).2]; rfl).trans (List.map_id _)
  · rcases hp with hp | hp <;> cases hw i _ hp

theorem inv_step {ws : List Writer} (hf : Fresh ws) {s s' : State} {order : List Nat} {i : Nat}
    (hi : Inv ws s order) (hs : step s i = some s') : ∃ order', Inv ws s' order' := by
  unfold step at hs
  split at hs
  · cases hs
  rename_i w hw
  obtain ⟨same, nodup, mem, excl, out⟩ := hi
  have hws : ws[i]? = some (reset w) := by rw [← same, List.getElem?_map, hw]; rfl
  have hlock : w.locked = true := (hf _ (List.mem_of_getElem? hws)).1
  have hpc : pcAt s.writers i = some w.pc := pcAt_eq_some.2 ⟨w, hw, rfl⟩
  split at hs
  · -- takes the mutex: nobody held it, so nobody is between its writes
    rename_i hpc0
    rw [if_pos hlock] at hs
    split at hs <;> cases hs
    rename_i hh
    have hh : s.holder = none := by simpa using hh
    rw [hpc0] at hpc
    refine ⟨order, (map_reset_setPc ..).trans same, nodup, fun j => ?_, fun j hp => ?_, ?_⟩
    · rw [mem, pcAt_setPc hw]; split
      · subst j; simp [hpc]
      · rfl
    · rw [pcAt_setPc hw] at hp; split at hp
      · subst j; rfl
      · exact absurd (excl j hp) (by simp [hh])
    · rw [pend_some hws, pcAt_setPc hw, if_pos rfl, if_neg nofun, out, hh, pend_none]
  · -- first write: the holder's header becomes the unfinished tail
    rename_i hpc0
    cases hs
    rw [hpc0] at hpc
    have hh : s.holder = some i := excl i (.inl hpc)
    refine ⟨order, (map_reset_setPc ..).trans same, nodup, fun j => ?_, fun j hp => ?_, ?_⟩
    · rw [mem, pcAt_setPc hw]; split
      · subst j; simp [hpc]
      · rfl
    · rw [pcAt_setPc hw] at hp; split at hp
      · subst j; exact hh
      · exact excl j hp
    · rw [out, hh, pend_some hws, pend_some hws, pcAt_setPc hw, if_pos rfl, if_pos rfl, hpc, if_neg nofun,
        List.append_nil]
      rfl
  · -- second write: the tail was this writer's header, the frame is complete and joins `order`
    rename_i hpc0
    cases hs
    rw [hpc0] at hpc
    have hh : s.holder = some i := excl i (.inr hpc)
    have hnot : i ∉ order := fun hm => by simpa [hpc] using (mem i).1 hm
    refine ⟨order ++ [i], (map_reset_setPc ..).trans same, ?_, fun j => ?_, fun j hp => ?_, ?_⟩
    · exact List.nodup_append.2 ⟨nodup, by simp, fun a ha b hb => by rintro rfl; exact hnot (List.mem_singleton.1 hb ▸ ha)⟩
    · rw [List.mem_append, mem, List.mem_singleton, pcAt_setPc hw]; split
      · subst j; simp
      · simp [*]
    · rw [pcAt_setPc hw] at hp; split at hp
      · simp at hp
      · have := excl j hp; rw [hh] at this; cases this; contradiction
    · rw [out, hh, pend_some hws, if_pos hpc, if_pos hlock, List.filterMap_append]
      simp [hws, frameOf, reset, pend_none]
  · cases hs

theorem inv_run {ws : List Writer} (hf : Fresh ws) (sched : List Nat) {s : State} {order : List Nat}
    (hi : Inv ws s order) : ∃ order', Inv ws (run s sched) order' := by
  induction sched generalizing s order with
  | nil => exact ⟨order, hi⟩
  | cons i rest ih =>
    simp only [run]
    split
    · obtain ⟨order', hi'⟩ := inv_step hf hi ‹_›
      exact ih hi'
    · exact ih hi

/-- What the transport has received is, at every moment, the complete frames of some writers (pairwise different, all
    finished) one after the other, followed - while a writer is between its two writes - by that writer's header. -/
theorem mux_prefix (ws : List Writer) (hf : Fresh ws) (sched : List Nat) :
    ∃ order : List Nat, order.Nodup ∧ (∀ i ∈ order, ∃ w, (run { writers := ws } sched).writers[i]? = some w ∧ w.pc = .done) ∧
      (∀ i w, (run { writers := ws } sched).writers[i]? = some w → w.pc = .done → i ∈ order) ∧
      ∃ tail : Bytes,
        (run { writers := ws } sched).out = (order.filterMap fun i => ws[i]?.map frameOf).flatten ++ tail ∧
        (tail = [] ∨ ∃ h w, (run { writers := ws } sched).holder = some h ∧ ws[h]? = some w ∧ tail = w.header) := by
  obtain ⟨order, hi⟩ := inv_run hf sched (inv_init hf)
  refine ⟨order, hi.nodup, fun i hm => pcAt_eq_some.1 ((hi.mem i).1 hm),
    fun i w hw hd => (hi.mem i).2 (pcAt_eq_some.2 ⟨w, hw, hd⟩), _, hi.out, ?_⟩
  exact (pend_cases ..).imp_right fun ⟨h, w, hh, hw, _, ht⟩ => ⟨h, w, hh, hw, ht⟩

theorem encode_split (b : Bytes) :
    (Frame.encode b).take ((Frame.encode b).length - b.length) ++ b = Frame.encode b := by
  have he : Frame.encode b
      = (Frame.hdrContentLength ++ [58, 32] ++ Frame.decimal b.length ++ Frame.crlfcrlf) ++ b := rfl
  rw [he, List.take_left' (by rw [List.length_append (bs := b), Nat.add_sub_cancel])]

end TemplVerif.Proofs.Mux
