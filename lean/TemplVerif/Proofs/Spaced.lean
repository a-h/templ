import TemplVerif.Model.Spaced
import TemplVerif.Proofs.Printer
import TemplVerif.Proofs.Norm
/- C08 on the printer fragment: re-parsing what the printer wrote keeps the layout class when the source is spaced (the
   printer adds white space only where there was some) and its whitespace nodes are as the parser makes them (`parsedWs`). -/
namespace TemplVerif.Proofs.Spaced
open TemplVerif TemplVerif.Ast TemplVerif.Printer TemplVerif.Reparse
open TemplVerif.Proofs.Printer
open TemplVerif.Proofs.Norm (nxOf norm_nodes_cons nodes_of_allWs nonNil_congr)
-- `Spaced.x` would be looked up in this namespace first, so the model's names are opened one by one or written in full
open TemplVerif.Spaced (wsNonEmpty realNonFor parsedWs parsedWsNode parsedWsElifs parsedWsCases)

theorem reNode_inline (n : Node) (tr : Trail) (l : Nat) : Sem.Node.inline (reNode n tr l) = Sem.Node.inline n := by
  cases n <;> rfl

theorem inline_of_isWs {n : Node} (h : n.isWs = true) : Sem.Node.inline n = false := by
  cases n with
  | ws => rfl
  | _ => cases h

theorem isFor_eq (n : Node) : TemplVerif.Spaced.isFor (some n) = eatsLeadingWs n := by
  cases n <;> rfl

theorem trail_inline {n : Node} (hi : Sem.Node.inline n = true) :
    Sem.Node.trail n = if isTrailer n then ownTrail n else .none := by
  cases n with
  | element | forE | ifE | switchE | strExpr | text => rfl
  | _ => cases hi

theorem trail_reNode {n : Node} (tr : Trail) (l : Nat) (hi : Sem.Node.inline n = true) :
    Sem.Node.trail (reNode n tr l) = if isTrailer n then tr else .none := by
  cases n with
  | element | forE | ifE | switchE | strExpr | text => rfl
  | _ => cases hi

theorem keep_reNode {n : Node} {tr : Trail} {l : Nat} {nx : Bool}
    (h : Sem.Node.inline n = true → isTrailer n = true → (tr != .none) = (ownTrail n != .none)) :
    Norm.keep (reNode n tr l) nx = Norm.keep n nx := by
  unfold Norm.keep
  rw [reNode_inline]
  cases hi : Sem.Node.inline n
  · rfl
  · rw [trail_reNode tr l hi, trail_inline hi]
    cases ht : isTrailer n
    · rfl
    · simp only [if_true, h hi ht]

/-- white space pending in front of the list is accounted for in the source: nothing real follows, or a `for` (which eats
    it), or the list starts with a whitespace node -/
def sepOK (ns : Nodes) : Bool :=
  (TemplVerif.Spaced.firstReal ns).isNone || TemplVerif.Spaced.isFor (TemplVerif.Spaced.firstReal ns) ||
    (match ns with | .cons m _ => m.isWs | .nil => true)

/-- What the induction carries about `pending` of the re-parse. Nothing in a mode that drops the whitespace node anyway
    (`all`, or at the start of the list, `a`); otherwise white space that is pending is accounted for in the source
    (`sepOK`), and where none is pending the list does not start with a whitespace node. -/
def pendingOK (all a p : Bool) (ns : Nodes) : Bool := all || a || (if p then sepOK ns else !headWs ns)

theorem sepOK_real (n : Node) (rest : Nodes) (hn : n.isWs = false) : sepOK (.cons n rest) = eatsLeadingWs n := by
  simp [sepOK, TemplVerif.Spaced.firstReal, hn, isFor_eq]

/-- A whitespace node that `Norm.nodes false false` keeps stands, as the parser makes it, in front of a node that is neither
    white space nor a `for`: the re-parse has white space pending there and puts its own whitespace node in the same place. -/
theorem reNodes_keptWs {s : Nat} {i : Bool} {l : Nat} {p : Bool} {cl : Nat} {ce : Bool} {last : Option Node}
    {n : Node} {rest : Nodes} (hn : n.isWs = true) (hA : rest.allWs = false)
    (hp : parsedWs false false (.cons n rest) = true) (hc : pendingOK false false p (.cons n rest) = true) :
    wsNonEmpty n = true ∧ headWs rest = false ∧
      reNodes s i l p cl ce last (.cons n rest) = .cons wsN (reNodes s i l false cl ce last rest) := by
  cases p
  · simp [pendingOK, headWs, hn] at hc
  · simp only [parsedWs, hn, if_true, hA, Bool.false_or, Bool.and_eq_true] at hp
    cases rest with
    | nil => cases hA
    | cons m r =>
      have hr := hp.1.2
      simp only [realNonFor, Bool.and_eq_true, Bool.not_eq_true'] at hr
      refine ⟨hp.1.1, hr.1, ?_⟩
      rw [reNodes_cons_ws hn, reNodes_cons hr.1, reNodes_cons hr.1, hr.2]
      rfl

theorem nxOf_true_reNodes {s : Nat} {i : Bool} {l : Nat} {p : Bool} {cl : Nat} {ce : Bool} {last : Option Node} {next : Bool} :
    (ns : Nodes) → nxOf true (reNodes s i l p cl ce last ns) next = nxOf true ns next
  | .nil => reNodes_nil (F := (nxOf true · next)) rfl
  | .cons n rest => by
    cases hn : n.isWs
    · rw [reNodes_cons hn]
      split <;> simp [nxOf, Nodes.firstNonWs, wsN_isWs, reNode_isWs, hn, reNode_inline]
    · rw [reNodes_cons_ws hn, nxOf_true_reNodes rest]
      simp [nxOf, Nodes.firstNonWs, hn]

theorem norm_reNodes_allWs {all a : Bool} {s : Nat} {i : Bool} {l : Nat} {p : Bool} {cl : Nat} {ce : Bool}
    {last : Option Node} {ns : Nodes} {next : Bool} (h : ns.allWs = true) :
    Norm.nodes all a (reNodes s i l p cl ce last ns) next = .nil :=
  nodes_of_allWs all a _ next (by rw [reNodes_allWs]; exact h)

theorem nxOf_reNodes {all : Bool} {s : Nat} {i : Bool} {l : Nat} {p : Bool} {cl : Nat} {ce : Bool} {last : Option Node}
    {rest : Nodes} {next : Bool} (hp : parsedWs all false rest = true) (hc : pendingOK all false p rest = true) :
    nxOf all (reNodes s i l p cl ce last rest) next = nxOf all rest next := by
  cases all with
  | true => exact nxOf_true_reNodes rest
  | false =>
    unfold nxOf
    simp only [Bool.false_eq_true, if_false, reNodes_allWs]
    cases hA : rest.allWs with
    | true => rfl
    | false =>
      simp only [Bool.false_eq_true, if_false]
      cases rest with
      | nil => cases hA
      | cons h t =>
        cases hh : h.isWs
        · rw [reNodes_cons hh]
          have : (p && !eatsLeadingWs h) = false := by
            cases p
            · rfl
            · simp only [pendingOK, Bool.false_or, if_true, sepOK_real h t hh] at hc
              simp [hc]
          rw [this]
          exact reNode_inline ..
        · simp only [Nodes.allWs, hh, Bool.true_and] at hA
          rw [(reNodes_keptWs hh hA hp hc).2.2]
          exact (inline_of_isWs hh).symm

theorem spaced_cons {all i : Bool} {n : Node} {rest : Nodes} (hn : n.isWs = false)
    (hh : isTrailer n = true → headWs rest = false)
    (h : TemplVerif.Spaced.spacedNodes all i (.cons n rest) = true) :
    TemplVerif.Spaced.spacedNode n = true ∧
    (∀ l nx, Norm.keep (reNode n (sepAfter i n rest) l) nx = Norm.keep n nx) ∧
    pendingOK all false (!isTrailer n) rest = true ∧ TemplVerif.Spaced.spacedNodes all i rest = true := by
  simp only [TemplVerif.Spaced.spacedNodes, hn, Bool.false_eq_true, if_false, Bool.and_eq_true] at h
  obtain ⟨⟨⟨h1, h2⟩, h3⟩, h4⟩ := h
  refine ⟨h1, fun l nx => keep_reNode fun hi ht => ?_, ?_, h4⟩
  · -- where the printer replaces the separator by a line break, a spaced source had white space already
    rw [hi, ht] at h2
    unfold sepAfter at h2 ⊢
    cases i
    · rfl
    · cases hc : (nextIsBlock rest || rest.isNil || alwaysBreak n)
      · rfl
      · rw [hc] at h2
        simp only [Bool.and_self, if_true, beq_self_eq_true, Bool.not_true, Bool.false_or] at h2
        rw [h2]; rfl
  unfold pendingOK sepOK
  cases all
  · cases ht : isTrailer n
    · cases rest with
      | nil => rfl
      | cons m r => simpa [ht] using h3
    · simp [hh ht]
  · rfl

mutual
theorem node_kept : (n : Node) → (tr : Trail) → (l : Nat) → (nx : Bool) → wfNode n = true → nodeInFragment n = true →
    TemplVerif.Spaced.spacedNode n = true → parsedWsNode n = true → (1 ≤ l ∨ isTemplEl n = false) →
    Norm.keep (reNode n tr l) nx = Norm.keep n nx → Norm.node (reNode n tr l) nx = Norm.node n nx :=
  fun n tr l nx hw hf hs hp hl hk => by
    cases n with
    | element n as cs t ia ic =>
      obtain ⟨hwc, hm⟩ := element_cases hw l
      simp only [nodeInFragment, TemplVerif.Spaced.spacedNode, parsedWsNode, Bool.and_eq_true] at hf hs hp
      have hc : Norm.nodes true true (reChildren cs ic l) false = Norm.nodes true true cs false := by
        rcases hm with ⟨ha, hc⟩ | ⟨ha, hi, hc⟩ | ⟨ha, rfl, hr, _, hc⟩
        · rw [hc, nodes_of_allWs true true cs false ha]; rfl
        · rw [hc]
          rw [ha, hi] at hs
          exact nodes_kept cs hwc hf.2 hs.2 hp lvlOk_block rfl
        · rw [hc]
          rw [ha, hr] at hs
          exact nodes_kept cs hwc hf.2 hs.2 hp (Or.inr hr) rfl
      rw [reNode_element] at hk ⊢
      simp only [Norm.node]
      rw [hk, hc]
      cases hv : Sem.isVoid n with
      | false => rfl
      | true =>
        -- the parser gives a void element no children (`spacedNode`)
        have hnil : cs.isNil = true := by simpa [hv] using hs.1
        cases cs with
        | nil => rfl
        | cons _ _ => cases hnil
    | forE e b =>
      simp only [wfNode, nodeInFragment, TemplVerif.Spaced.spacedNode, parsedWsNode, Bool.and_eq_true] at hw hf hs hp
      simp only [reNode, Norm.node]
      rw [nodes_kept b hw hf.2 hs hp lvlOk_block rfl]
    | templEl e b =>
      simp only [wfNode, nodeInFragment, TemplVerif.Spaced.spacedNode, parsedWsNode, Bool.and_eq_true] at hw hf hs hp
      rw [reNode_templEl]
      cases hb : b.isNil with
      | false =>
        simp only [Bool.false_eq_true, if_false, Norm.node]
        rw [nodes_kept b hw hf.2 hs hp lvlOk_block rfl,
          nonNil_congr b (by rw [reNodes_nonNil (templEl_level hl) b, hb])]
      | true =>
        cases b with
        | nil => rfl
        | cons _ _ => cases hb
    | ifE e thn elifs els =>
      simp only [wfNode, nodeInFragment, TemplVerif.Spaced.spacedNode, parsedWsNode, Bool.and_eq_true] at hw hf hs hp
      obtain ⟨more, hre⟩ := reNode_ifE e thn elifs els tr l
      rw [hre]
      simp only [Norm.node]
      rw [nodes_kept thn hw.1.1.1 hf.1.1.2 hs.1.1 hp.1.1 lvlOk_block rfl,
        elifs_kept elifs l nx hw.1.1.2 hf.1.2 hs.1.2 hp.1.2,
        nodes_kept els hw.1.2 hf.2 hs.2 hp.2 lvlOk_block rfl]
    | switchE e cs =>
      simp only [wfNode, nodeInFragment, TemplVerif.Spaced.spacedNode, parsedWsNode, Bool.and_eq_true] at hw hf hs hp
      simp only [reNode, Norm.node]
      rw [cases_kept cs l nx hw hf.2 hs hp]
    | strExpr e t => exact congrArg (Node.strExpr e) hk
    | text v t => exact congrArg (Node.text v) hk
    | _ => rfl
theorem nodes_kept {all : Bool} {s : Nat} {i : Bool} {l : Nat} {p : Bool} {cl : Nat} {ce : Bool} {last : Option Node}
    {a next : Bool} : (ns : Nodes) → wfNodes ns = true → nodesInFragment ns = true →
    TemplVerif.Spaced.spacedNodes all i ns = true → parsedWs all a ns = true → LvlOk s i l ns → pendingOK all a p ns = true →
    Norm.nodes all a (reNodes s i l p cl ce last ns) next = Norm.nodes all a ns next
  | .nil => fun _ _ _ _ _ _ => norm_reNodes_allWs rfl
  | .cons n rest => fun hw hf hs hp hl hc => by
    obtain ⟨hwn, hh, hwr⟩ := wf_cons hw
    simp only [nodesInFragment, Bool.and_eq_true] at hf
    cases hn : n.isWs
    · obtain ⟨hs1, hs2, hs3, hs4⟩ := spaced_cons hn hh hs
      simp only [parsedWs, hn, Bool.false_eq_true, if_false, Bool.and_eq_true] at hp
      obtain ⟨hl1, hl2⟩ := lvlOk_step hn hw hl
      have hX : Norm.nodes all a (.cons (reNode n (sepAfter i n rest) l)
          (reNodes s i (nextLevel s (sepAfter i n rest)) (!isTrailer n) cl ce (some n) rest)) next =
          Norm.nodes all a (.cons n rest) next := by
        rw [norm_nodes_cons, norm_nodes_cons, reNode_isWs, hn, nxOf_reNodes hp.2 hs3,
          node_kept n _ l _ hwn hf.1 hs1 hp.1 hl1 (hs2 l _), nodes_kept rest hwr hf.2 hs4 hp.2 hl2 hs3]
        rfl
      rw [reNodes_cons hn]
      split
      · next hpe =>
        -- white space was pending and the source has none here: then `Norm.nodes` is in a mode that drops it
        simp only [Bool.and_eq_true, Bool.not_eq_true'] at hpe
        have hall : (all || a) = true := by
          simpa only [pendingOK, hpe.1, if_true, sepOK_real n rest hn, hpe.2, Bool.or_false] using hc
        rw [norm_nodes_cons all a wsN]
        simp only [wsN_isWs, hall, Bool.true_and, Bool.true_or, if_true]
        exact hX
      · exact hX
    · have hp0 := hp
      simp only [TemplVerif.Spaced.spacedNodes, parsedWs, hn, if_true, Bool.and_eq_true] at hs hp
      rw [norm_nodes_cons, hn]
      cases hA : rest.allWs with
      | true =>
        simp only [Bool.or_true, Bool.and_true, if_true]
        rw [reNodes_cons_ws hn, norm_reNodes_allWs hA, nodes_of_allWs all a rest next hA]
      | false =>
        cases hall : (all || a) with
        | true =>
          simp only [Bool.or_false, Bool.true_and, if_true]
          rw [reNodes_cons_ws hn]
          exact nodes_kept rest hwr hf.2 hs hp.2 (lvlOk_ws hn hl) (by simp [pendingOK, hall])
        | false =>
          obtain ⟨rfl, rfl⟩ := Bool.or_eq_false_iff.mp hall
          obtain ⟨hne, hh', hre⟩ := reNodes_keptWs (s := s) (i := i) (l := l) (cl := cl) (ce := ce) (last := last) hn hA hp0 hc
          rw [hre, norm_nodes_cons false false wsN,
            nodes_kept rest hwr hf.2 hs hp.2 (lvlOk_ws hn hl) (by simp [pendingOK, hh'])]
          simp only [wsN_isWs, reNodes_allWs, hA, Bool.or_false, Bool.and_false, Bool.false_eq_true, if_false]
          cases n with
          | ws v =>
            have : v.isEmpty = false := by simpa [wsNonEmpty] using hne
            simp [Norm.node, wsN, this]
          | _ => cases hn
theorem elifs_kept : (es : ElseIfs) → (l : Nat) → (nx : Bool) → wfElifs es = true → elifsInFragment es = true →
    TemplVerif.Spaced.spacedElifs es = true → parsedWsElifs es = true →
    Norm.elseIfs (reElifs es l) nx = Norm.elseIfs es nx
  | .nil => fun _ _ _ _ _ _ => rfl
  | .cons e thn rest => fun l nx hw hf hs hp => by
    simp only [wfElifs, elifsInFragment, TemplVerif.Spaced.spacedElifs, parsedWsElifs, Bool.and_eq_true] at hw hf hs hp
    simp only [reElifs, Norm.elseIfs]
    rw [nodes_kept thn hw.1 hf.1.2 hs.1 hp.1 lvlOk_block rfl, elifs_kept rest l nx hw.2 hf.2 hs.2 hp.2]
theorem cases_kept : (cs : Cases) → (l : Nat) → (nx : Bool) → wfCases cs = true → casesInFragment cs = true →
    TemplVerif.Spaced.spacedCases cs = true → parsedWsCases cs = true →
    Norm.cases (reCases cs l) nx = Norm.cases cs nx
  | .nil => fun _ _ _ _ _ _ => rfl
  | .cons e b rest => fun l nx hw hf hs hp => by
    simp only [wfCases, casesInFragment, TemplVerif.Spaced.spacedCases, parsedWsCases, Bool.and_eq_true] at hw hf hs hp
    simp only [reCases, Norm.cases]
    rw [show l + 2 = l + 1 + 1 from rfl, nodes_kept b hw.1 hf.1.2 hs.1 hp.1 lvlOk_block rfl,
      cases_kept rest l nx hw.2 hf.2 hs.2 hp.2]
end

/-! Without `parsedWs`, `nodes_kept` is false: `wfNodes` / `Spaced.spacedBody` do not record three parser facts about the
whitespace nodes that `Norm` keeps. Each example satisfies the other three hypotheses. -/

/-- 1. an EMPTY whitespace node between two nodes of a `for` body: `Norm` keeps it as `ws []`, the re-parse has `ws [32]` -/
example :
    let c : Node := .htmlComment [99]
    let t : Nodes := .cons (.forE [120] (.cons c (.cons (.ws []) (.cons c .nil)))) .nil
    nodesInFragment t = true ∧ wfNodes t = true ∧ TemplVerif.Spaced.spacedBody t = true ∧
      Norm.body (Reparse.body t) ≠ Norm.body t := by decide

/-- 2. a whitespace node directly in front of a `for`: `Norm` keeps it, the re-parsed `for` has eaten it -/
example :
    let c : Node := .htmlComment [99]
    let t : Nodes := .cons (.forE [120] (.cons c (.cons (.ws [32]) (.cons (.forE [121] .nil) .nil)))) .nil
    nodesInFragment t = true ∧ wfNodes t = true ∧ TemplVerif.Spaced.spacedBody t = true ∧
      Norm.body (Reparse.body t) ≠ Norm.body t := by decide

/-- 3. two consecutive whitespace nodes: `Norm` keeps both, the re-parse has one -/
example :
    let c : Node := .htmlComment [99]
    let t : Nodes := .cons (.forE [120] (.cons c (.cons (.ws [32]) (.cons (.ws [32]) (.cons c .nil))))) .nil
    nodesInFragment t = true ∧ wfNodes t = true ∧ TemplVerif.Spaced.spacedBody t = true ∧
      Norm.body (Reparse.body t) ≠ Norm.body t := by decide

/-- `parsedWs` is satisfiable together with the other hypotheses on a tree with kept whitespace -/
example :
    let c : Node := .htmlComment [99]
    let t : Nodes := .cons (.forE [120] (.cons c (.cons (.ws [10, 9]) (.cons (.text [97] .horiz) (.cons (.forE [121] .nil) .nil))))) .nil
    nodesInFragment t = true ∧ wfNodes t = true ∧ TemplVerif.Spaced.spacedBody t = true ∧ parsedWs true true t = true ∧
      Norm.body (Reparse.body t) = Norm.body t := by decide +kernel

end TemplVerif.Proofs.Spaced
