import TemplVerif.Model.Buf
import TemplVerif.Proofs.Bytes
/-
C10 — runtime.Buffer over a faulty writer. `Core` is what no buffer operation changes, failing or not; `RSpec` is what
running a piece of a Render (one write, a list of ops) from an error-free buffer guarantees. `render_spec` adds the Reset
in front and the deferred flush behind; the C10 theorems are read off it.
-/
namespace TemplVerif.Proofs.Buf
open TemplVerif TemplVerif.Buf

/-- Bytes that have logically left the program: what the writer holds plus what is buffered. -/
def cont (b : BW) : Bytes := b.u.accepted ++ b.buf

/-- runtime.checkedWriter reports an error exactly when it took less than all of `p`: `silent` no longer matters. -/
theorem writeChecked_spec (u : Under) (p : Bytes) : ∃ n, n ≤ p.length ∧
    u.writeChecked p = ({ u with accepted := u.accepted ++ p.take n }, n, decide (n < p.length)) ∧
    (u.limit = none → n = p.length) ∧ ∀ k, u.limit = some k → n = 0 ∨ u.accepted.length + n ≤ k := by
  obtain ⟨acc, lim, z, sw, s⟩ := u
  unfold Under.writeChecked Under.write
  cases lim with
  | none => exact ⟨p.length, by simp⟩
  | some k =>
    simp only [Option.some.injEq, reduceCtorEq, false_imp_iff, forall_eq', true_and]
    by_cases h1 : p.length ≤ k - acc.length
    · rw [if_pos h1]
      exact ⟨p.length, Nat.le_refl _, by simp only [List.take_length, Nat.lt_irrefl, decide_false, Bool.or_false], by omega⟩
    · rw [if_neg h1]
      have hlt : k - acc.length < p.length := Nat.lt_of_not_le h1
      by_cases hz : z = true
      · rw [if_pos hz]
        refine ⟨0, Nat.zero_le _, ?_, .inl rfl⟩
        simp only [List.take_zero, List.append_nil, Nat.zero_lt_of_lt hlt, decide_true, Bool.or_true]
      · rw [if_neg hz]
        refine ⟨k - acc.length, Nat.le_of_lt hlt, ?_, by omega⟩
        simp only [hlt, decide_true, Bool.or_true]

theorem write_at_limit {u : Under} {p : Bytes} {k : Nat} (hl : u.limit = some k) (hk : k ≤ u.accepted.length) (hp : p ≠ []) :
    u.write p = (u, 0, !u.silent) := by
  have hpl : 0 < p.length := List.length_pos_iff.mpr hp
  obtain ⟨acc, lim, z, sw, s⟩ := u
  subst hl
  have h0 : k - acc.length = 0 := Nat.sub_eq_zero_of_le hk
  unfold Under.write
  simp only [h0]
  rw [if_neg (Nat.not_le.mpr hpl)]
  split <;> simp

/-- What every buffer operation preserves, whether or not it fails. `a0` is the ghost value "what the writer held when
    the render started"; `J` says the writer has either received nothing yet or is within its limit. -/
structure Core (a0 : Bytes) (b b' : BW) : Prop where
  cap : b'.cap = b.cap
  limit : b'.u.limit = b.u.limit
  errMono : b'.err = false → b.err = false
  noLimit : b.u.limit = none → b'.err = b.err
  frozen : b.err = true → cont b' = cont b
  J : ∀ k, b.u.limit = some k → (b.u.accepted = a0 ∨ b.u.accepted.length ≤ k) →
    (b'.u.accepted = a0 ∨ b'.u.accepted.length ≤ k)

theorem Core.refl {a0 : Bytes} {b : BW} : Core a0 b b :=
  ⟨rfl, rfl, id, fun _ => rfl, fun _ => rfl, fun _ _ h => h⟩

theorem Core.trans {a0 : Bytes} {b b' b'' : BW} (h1 : Core a0 b b') (h2 : Core a0 b' b'') : Core a0 b b'' := by
  refine ⟨h2.cap.trans h1.cap, h2.limit.trans h1.limit, fun h => h1.errMono (h2.errMono h), ?_, ?_, ?_⟩
  · intro hl
    rw [h2.noLimit (h1.limit.trans hl), h1.noLimit hl]
  · intro he
    have he' : b'.err = true := by
      cases h : b'.err with
      | true => rfl
      | false => rw [h1.errMono h] at he; cases he
    rw [h2.frozen he', h1.frozen he]
  · intro k hl hJ
    exact h2.J k (h1.limit.trans hl) (h1.J k hl hJ)

theorem core_send {a0 : Bytes} {b : BW} (hb : b.err = false) {q : Bytes} {n : Nat} (hnl : b.u.limit = none → n = q.length)
    (hk : ∀ k, b.u.limit = some k → n = 0 ∨ b.u.accepted.length + n ≤ k) {buf' : Bytes} :
    Core a0 b { b with u := { b.u with accepted := b.u.accepted ++ q.take n }, buf := buf', err := decide (n < q.length) } := by
  refine ⟨rfl, rfl, fun _ => hb, fun hl => by simp [hnl hl, hb], fun h => by simp [hb] at h, fun k hl hJ => ?_⟩
  rcases hk k hl with rfl | hle
  · simpa using hJ
  · right
    simp only [List.length_append, List.length_take]
    exact Nat.le_trans (Nat.add_le_add_left (Nat.min_le_left _ _) _) hle

theorem core_append {a0 : Bytes} {b : BW} {q : Bytes} (hb : b.err = false) : Core a0 b { b with buf := b.buf ++ q } :=
  ⟨rfl, rfl, fun _ => hb, fun _ => rfl, fun h => (by rw [hb] at h; cases h), fun _ _ h => h⟩

theorem flush_err {b : BW} (he : b.err = true) : b.flush = b := by
  simp [BW.flush, he]

theorem flush_spec (a0 : Bytes) (b : BW) :
    Core a0 b b.flush ∧ cont b.flush = cont b ∧ (b.flush.err = false → b.flush.buf = []) := by
  cases he : b.err with
  | true => rw [flush_err he]; exact ⟨Core.refl, rfl, fun h => by simp [he] at h⟩
  | false =>
    obtain ⟨n, hn, hw, hnl, hk⟩ := writeChecked_spec b.u b.buf
    have hfl : b.flush = { b with
        u := { b.u with accepted := b.u.accepted ++ b.buf.take n }, buf := b.buf.drop n, err := decide (n < b.buf.length) } := by
      obtain ⟨cap, buf, err, u⟩ := b
      subst he
      by_cases hlt : n < buf.length
      · have : buf ≠ [] := List.ne_nil_of_length_pos (Nat.zero_lt_of_lt hlt)
        simp [BW.flush, hw, hlt, this]
      · have : n = buf.length := Nat.le_antisymm hn (Nat.le_of_not_lt hlt)
        subst this
        by_cases hemp : buf = [] <;> simp [BW.flush, hw, hemp]
    rw [hfl]
    refine ⟨core_send he hnl hk, by simp [cont], fun h => ?_⟩
    have : n = b.buf.length := Nat.le_antisymm hn (Nat.le_of_not_lt (of_decide_eq_false h))
    simp [this]

-- The document up to (not including) the first failing step, and that step's error.
mutual
  def docBefore : List ROp → Bytes × RErr
    | [] => ([], .none)
    | op :: rest =>
      match docBeforeOp op with
      | (d, .none) => let (d', e) := docBefore rest; (d ++ d', e)
      | (d, e) => (d, e)
  def docBeforeOp : ROp → Bytes × RErr
    | .write p => (p, .none)
    | .exprFail l => ([], .expr l)
    | .sub ops => docBefore ops
    | .subFail => ([], .component)
end

theorem docBefore_cons (op : ROp) (rest : List ROp) :
    docBefore (op :: rest) = if (docBeforeOp op).2 = .none then ((docBeforeOp op).1 ++ (docBefore rest).1, (docBefore rest).2)
      else docBeforeOp op := by
  rw [docBefore]
  rcases docBeforeOp op with ⟨d, e⟩
  cases e <;> rfl

mutual
  theorem docBefore_none : ∀ (ops : List ROp), (docBefore ops).2 = .none → (docBefore ops).1 = docOf ops
    | [], _ => by simp [docBefore, docOf]
    | op :: rest, h => by
      rw [docBefore_cons] at h ⊢
      split at h
      · rename_i h1
        rw [if_pos h1, docOf, docBeforeOp_none op h1, docBefore_none rest h]
      · rename_i h1
        exact absurd h h1
  theorem docBeforeOp_none : ∀ (op : ROp), (docBeforeOp op).2 = .none → (docBeforeOp op).1 = docOfOp op
    | op, h => by
      cases op with
      | write p => rfl
      | sub ops =>
        rw [docBeforeOp] at h ⊢
        rw [docOfOp, docBefore_none ops h]
      | _ => exact nomatch h
end

mutual
  theorem docBefore_failFree : ∀ (ops : List ROp), failFree ops = true → (docBefore ops).2 = .none
    | [], _ => by simp [docBefore]
    | op :: rest, h => by
      rw [failFree, Bool.and_eq_true] at h
      rw [docBefore_cons, if_pos (docBeforeOp_failFree op h.1)]
      exact docBefore_failFree rest h.2
  theorem docBeforeOp_failFree : ∀ (op : ROp), failFreeOp op = true → (docBeforeOp op).2 = .none
    | op, h => by
      cases op with
      | write p => rfl
      | sub ops =>
        rw [failFreeOp] at h
        rw [docBeforeOp]
        exact docBefore_failFree ops h
      | _ => exact nomatch h
end

/-- What running ops from `b` (no error yet) to `r` guarantees; `doc` is the full document of the ops, `db` the
    document up to the first failing step and that step's error. -/
structure RSpec (a0 : Bytes) (b : BW) (r : BW × RErr) (doc : Bytes) (db : Bytes × RErr) : Prop where
  core : Core a0 b r.1
  pre : ∃ t, t <+: doc ∧ cont r.1 = cont b ++ t
  werr : r.1.err = true ↔ r.2 = .writer
  ok : r.1.err = false → r.2 = db.2 ∧ cont r.1 = cont b ++ db.1

theorem RSpec.stop {a0 : Bytes} {b : BW} (he : b.err = false) {e : RErr} (h : e ≠ .writer) : RSpec a0 b (b, e) [] ([], e) :=
  ⟨Core.refl, ⟨[], List.prefix_refl _, by simp⟩, by simp [he, h], fun _ => by simp⟩

theorem RSpec.seq {a0 : Bytes} {b : BW} {r₁ r₂ : BW × RErr} {d₁ d₂ : Bytes} {db₁ db₂ : Bytes × RErr}
    (h₁ : RSpec a0 b r₁ d₁ db₁) (hd : db₁.2 = .none → db₁.1 = d₁)
    (h₂ : r₁.1.err = false → RSpec a0 r₁.1 r₂ d₂ db₂) :
    RSpec a0 b (if r₁.2 = .none then r₂ else r₁) (d₁ ++ d₂)
      (if db₁.2 = .none then (db₁.1 ++ db₂.1, db₂.2) else db₁) := by
  by_cases hn : r₁.2 = .none
  · rw [if_pos hn]
    have he : r₁.1.err = false := by
      cases h : r₁.1.err with
      | false => rfl
      | true => rw [h₁.werr.mp h] at hn; cases hn
    obtain ⟨hdb, hc⟩ := h₁.ok he
    have h₂ := h₂ he
    rw [if_pos (hdb ▸ hn)]
    refine ⟨h₁.core.trans h₂.core, ?_, h₂.werr, fun hok => ?_⟩
    · obtain ⟨t, ht, hct⟩ := h₂.pre
      exact ⟨d₁ ++ t, (List.prefix_append_right_inj _).mpr ht, by rw [hct, hc, hd (hdb ▸ hn), List.append_assoc]⟩
    · obtain ⟨hr, hc₂⟩ := h₂.ok hok
      exact ⟨hr, by rw [hc₂, hc, List.append_assoc]⟩
  · rw [if_neg hn]
    refine ⟨h₁.core, ?_, h₁.werr, fun hok => ?_⟩
    · obtain ⟨t, ht, hct⟩ := h₁.pre
      exact ⟨t, ht.trans (List.prefix_append _ _), hct⟩
    · obtain ⟨hdb, hc⟩ := h₁.ok hok
      rw [if_neg (hdb ▸ hn)]
      exact ⟨hdb, hc⟩

/-- A buffer after a write, as the generated code looks at it: it returns the writer's error if the sticky error is set.
    `runOp (.write p) b` is `checked (b.writeString p)`, so a write is specified by `RSpec` like any other step. -/
def checked (b : BW) : BW × RErr := (b, if b.err then .writer else .none)

theorem RSpec.emit {a0 : Bytes} {b b' : BW} {q : Bytes} (hcore : Core a0 b b') (hc : cont b' = cont b ++ q) :
    RSpec a0 b (checked b') q (q, .none) :=
  ⟨hcore, ⟨q, List.prefix_refl _, hc⟩, by unfold checked; cases b'.err <;> simp, fun (h : b'.err = false) => ⟨by simp [checked, h], hc⟩⟩

/-- Two pieces of one write; as in bufio's loop, the second is not attempted once the sticky error is set. -/
theorem RSpec.emit_seq {a0 : Bytes} {b b₁ b₂ : BW} {q₁ q₂ : Bytes} (h₁ : RSpec a0 b (checked b₁) q₁ (q₁, .none))
    (h₂ : b₁.err = false → RSpec a0 b₁ (checked b₂) q₂ (q₂, .none)) (hstop : b₁.err = true → b₂ = b₁) :
    RSpec a0 b (checked b₂) (q₁ ++ q₂) (q₁ ++ q₂, .none) := by
  have h := RSpec.seq h₁ (fun _ => rfl) h₂
  cases he : b₁.err with
  | false => simpa [checked, he] using h
  | true => rw [hstop he]; simpa [checked, he] using h

theorem wsa_err {fuel : Nat} {b : BW} {p : Bytes} (he : b.err = true) : BW.writeStringAux fuel b p = b := by
  cases fuel <;> simp [BW.writeStringAux, he]

/-- Fuel that certainly suffices for `writeStringAux` on `b`, `p`: every pass of the loop takes at least one byte of `p`,
    except a pass on a full buffer, which only flushes and is followed by one that does. -/
def need (b : BW) (p : Bytes) : Nat := p.length + (if b.cap ≤ b.buf.length then 1 else 0) + 1

theorem wsa_spec (a0 : Bytes) : ∀ (fuel : Nat) (b : BW) (p : Bytes), 0 < b.cap → b.err = false → need b p ≤ fuel →
    RSpec a0 b (checked (BW.writeStringAux fuel b p)) p (p, .none) := by
  intro fuel
  induction fuel with
  | zero => intro b p _ _ hn; exact nomatch hn
  | succ fuel ih =>
    intro b p hc he hn
    unfold BW.writeStringAux
    by_cases hcond : (decide (p.length > b.available) && !b.err) = true
    · rw [if_pos hcond]
      have hlen : b.cap - b.buf.length < p.length := of_decide_eq_true (Bool.and_eq_true_iff.mp hcond).1
      by_cases hd : (b.buf.isEmpty && b.u.stringWriter) = true
      · rw [if_pos hd]
        have hbuf : b.buf = [] := List.isEmpty_iff.mp (Bool.and_eq_true_iff.mp hd).1
        obtain ⟨n, hn', hw, hnl, hk⟩ := writeChecked_spec b.u p
        simp only [hw]
        have hs : RSpec a0 b (checked { b with u := { b.u with accepted := b.u.accepted ++ p.take n }, err := decide (n < p.length) })
            (p.take n) (p.take n, .none) := RSpec.emit (core_send he hnl hk) (by simp [cont, hbuf])
        -- the checking writer never takes nothing of a non-empty chunk without an error
        rw [if_neg fun hz => by
          simp only [Bool.and_eq_true, beq_iff_eq, Bool.not_eq_eq_eq_not, Bool.not_true, decide_eq_false_iff_not] at hz
          exact hz.2 (hz.1 ▸ Nat.zero_lt_of_lt hlen)]
        have h := hs.emit_seq (fun he' => ih _ (p.drop n) hc he' ?_) wsa_err
        · rwa [List.take_append_drop] at h
        · have : n = p.length := Nat.le_antisymm hn' (Nat.le_of_not_lt (of_decide_eq_false he'))
          simp only [need, hbuf, List.length_drop, List.length_nil, if_neg (Nat.not_le.mpr hc)] at hn ⊢
          omega
      · rw [if_neg hd]
        obtain ⟨hcore, hcont, hok⟩ := flush_spec a0 { b with buf := b.buf ++ p.take (b.cap - b.buf.length) }
        have hs : RSpec a0 b (checked ({ b with buf := b.buf ++ p.take (b.cap - b.buf.length) } : BW).flush)
            (p.take (b.cap - b.buf.length)) (p.take (b.cap - b.buf.length), .none) :=
          RSpec.emit ((core_append he).trans hcore) (by rw [hcont]; simp [cont])
        have hcap := hcore.cap
        simp only at hcap
        simp only [BW.available]
        have h := hs.emit_seq (fun he' => ih _ (p.drop (b.cap - b.buf.length)) (hcap.symm ▸ hc) he' ?_) wsa_err
        · rwa [List.take_append_drop] at h
        · simp only [need, hok he', hcap, List.length_drop, List.length_nil, if_neg (Nat.not_le.mpr hc)] at hn ⊢
          split at hn <;> omega
    · rw [if_neg hcond, if_neg (by simp [he])]
      exact RSpec.emit (core_append he) (by simp [cont])

theorem ws_spec {a0 : Bytes} {b : BW} {p : Bytes} (hc : 0 < b.cap) (he : b.err = false) :
    RSpec a0 b (checked (b.writeString p)) p (p, .none) := by
  refine wsa_spec a0 _ b p hc he (Nat.succ_le_succ (Nat.add_le_add_left ?_ _))
  split <;> decide

theorem runOps_cons (op : ROp) (rest : List ROp) (b : BW) :
    runOps (op :: rest) b = if (runOp op b).2 = .none then runOps rest (runOp op b).1 else runOp op b := by
  rw [runOps]
  rcases runOp op b with ⟨b1, e1⟩
  cases e1 <;> rfl

mutual
  theorem runOps_spec (a0 : Bytes) : ∀ (ops : List ROp) (b : BW), b.err = false → 0 < b.cap →
      RSpec a0 b (runOps ops b) (docOf ops) (docBefore ops)
    | [], b, he, _ => by
      rw [runOps, docOf, docBefore]
      exact RSpec.stop he (by simp)
    | op :: rest, b, he, hc => by
      rw [runOps_cons, docOf, docBefore_cons]
      have h₁ := runOp_spec a0 op b he hc
      exact RSpec.seq h₁ (docBeforeOp_none op) fun he₁ => runOps_spec a0 rest _ he₁ (h₁.core.cap ▸ hc)
  theorem runOp_spec (a0 : Bytes) : ∀ (op : ROp) (b : BW), b.err = false → 0 < b.cap →
      RSpec a0 b (runOp op b) (docOfOp op) (docBeforeOp op)
    | .write p, b, he, hc => ws_spec hc he
    | .sub ops, b, he, hc => by
      rw [runOp, docOfOp, docBeforeOp]
      exact runOps_spec a0 ops b he hc
    | .exprFail _, b, he, _ | .subFail, b, he, _ => by
      rw [runOp, docOfOp, docBeforeOp]
      exact RSpec.stop he (by simp)
end

theorem render_eq (ops : List ROp) (pooled : BW) (u : Under) :
    render false ops pooled u =
      ((runOps ops (pooled.reset u)).1.flush,
        if (runOps ops (pooled.reset u)).2 == .none then
          (if (runOps ops (pooled.reset u)).1.flush.err then .writer else .none)
        else (runOps ops (pooled.reset u)).2) := by
  simp [render]

/-- What the C10 theorems use about a render that was not cancelled. Last clause: a flush error is dropped when the
    body failed by itself. -/
theorem render_spec (ops : List ROp) (pooled : BW) (u : Under) (hc : 0 < pooled.cap) {r : BW × RErr}
    (hr : render false ops pooled u = r) :
    Core u.accepted (pooled.reset u) r.1 ∧ (∃ t, t <+: docOf ops ∧ cont r.1 = u.accepted ++ t) ∧
    (r.1.err = false → r.1.u.accepted = u.accepted ++ (docBefore ops).1 ∧ r.2 = (docBefore ops).2) ∧
    (r.1.err = true → r.2 = .writer ∨ r.2 = (docBefore ops).2 ∧ r.2 ≠ .none) := by
  have hS := runOps_spec u.accepted ops (pooled.reset u) rfl hc
  obtain ⟨hcore, hcont, hbuf⟩ := flush_spec u.accepted (runOps ops (pooled.reset u)).1
  have hb0 : cont (pooled.reset u) = u.accepted := by simp [cont, BW.reset]
  subst hr
  rw [render_eq]
  refine ⟨hS.core.trans hcore, ?_, fun hok => ?_, fun herr => ?_⟩
  · obtain ⟨t, ht, hct⟩ := hS.pre
    exact ⟨t, ht, by rw [← hb0, ← hct, ← hcont]⟩
  · obtain ⟨h2, hc1⟩ := hS.ok (hcore.errMono hok)
    simp only at hok ⊢
    rw [← hcont, hb0, cont, hbuf hok, List.append_nil] at hc1
    refine ⟨hc1, ?_⟩
    rw [hok, ← h2]
    cases (runOps ops (pooled.reset u)).2 <;> rfl
  · simp only at herr ⊢
    rw [herr]
    cases he1 : (runOps ops (pooled.reset u)).1.err with
    | true => rw [hS.werr.mp he1]; exact Or.inl rfl
    | false =>
      rw [← (hS.ok he1).1]
      cases (runOps ops (pooled.reset u)).2 <;> simp

theorem render_prefix (ops : List ROp) (pooled : BW) (u : Under) (hc : 0 < pooled.cap) :
    ∃ rest, u.accepted ++ docOf ops = (render false ops pooled u).1.u.accepted ++ rest := by
  obtain ⟨_, ⟨t, ⟨s, hs⟩, hct⟩, _⟩ := render_spec ops pooled u hc rfl
  refine ⟨(render false ops pooled u).1.buf ++ s, ?_⟩
  rw [← List.append_assoc]
  change _ = cont _ ++ s
  rw [hct, ← hs, List.append_assoc]

/-- The general form of `render_fault_reported`: the writer may already be beyond its limit, if only the document is
    not empty. -/
theorem render_fault_reported_nonempty {ops : List ROp} {pooled : BW} {u : Under} (hc : 0 < pooled.cap) {k : Nat}
    (hl : u.limit = some k) (hk : k < u.accepted.length + (docOf ops).length) (hd : docOf ops ≠ [])
    (hf : failFree ops = true) :
    (render false ops pooled u).2 = .writer := by
  obtain ⟨hcore, _, hok, herr⟩ := render_spec ops pooled u hc rfl
  have hdb := docBefore_failFree ops hf
  cases he : (render false ops pooled u).1.err with
  | true => exact (herr he).resolve_right fun h => h.2 (h.1.trans hdb)
  | false =>
    exfalso
    have hacc := (hok he).1
    rw [docBefore_none ops hdb] at hacc
    rcases hcore.J k hl (Or.inl rfl) with hJ | hJ
    · exact hd (by simpa [hacc] using hJ)
    · simp only [hacc, List.length_append] at hJ
      omega

theorem render_fault_reported (ops : List ROp) (pooled : BW) (u : Under) (hc : 0 < pooled.cap) (k : Nat)
    (hl : u.limit = some k) (ha : u.accepted.length ≤ k) (hk : k < u.accepted.length + (docOf ops).length)
    (hf : failFree ops = true) :
    (render false ops pooled u).2 = .writer := by
  refine render_fault_reported_nonempty hc hl hk (fun h => ?_) hf
  rw [h, List.length_nil] at hk
  omega

/-- A render depends on the buffer it draws from the pool only through its capacity, whatever earlier (failed) renders
    left in it. -/
theorem render_pool_independent (ops : List ROp) (pooled : BW) (u : Under) :
    render false ops pooled u = render false ops { cap := pooled.cap } u := by
  have : pooled.reset u = ({ cap := pooled.cap } : BW).reset u := rfl
  rw [render_eq, render_eq, this]

end TemplVerif.Proofs.Buf
