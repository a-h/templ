import TemplVerif.Model.Expect
import TemplVerif.Proofs.Html
import TemplVerif.Proofs.FailStop
/-
C01, composition: the bytes a template body denotes (`Denote`), read by the tokenizer (`HtmlTok`), are the tokens
the author wrote (`Expect`) — for every tree of the markup fragment, every environment (so: every string value)
and both readings of hoisting.
-/
namespace TemplVerif.Proofs.Compose
open TemplVerif TemplVerif.Ast TemplVerif.Sem TemplVerif.HtmlTok TemplVerif.Html

/-- The tokenizer, having read everything written so far, stands in the data state; it has emitted the expected
    tokens; its pending character data decodes to the expected text run and does not stop inside a character
    reference. -/
def Rel (σ : S) (t : Expect.T) : Prop :=
  σ.st = .data ∧ σ.out = t.toks ∧ decodeRefs σ.text = t.text ∧ Expect.openRef false σ.text = false

open TemplVerif.Proofs.Html

theorem openRef_mono : ∀ (o : Bool) (v : Bytes), Expect.openRef o v = false → Expect.openRef false v = false
  | false, _, h => h
  | true, [], h => by simp [Expect.openRef] at h
  | true, b :: rest, h => by
    simp only [Expect.openRef] at h ⊢
    by_cases h1 : (b == 38) = true
    · simpa [h1] using h
    · by_cases h2 : Expect.refByte b = true
      · simp only [h1, h2, if_true, if_false, Bool.false_eq_true] at h ⊢
        exact openRef_mono true rest h
      · simpa [h1, h2] using h

theorem openRef_append : ∀ (a b : Bytes) (o : Bool), Expect.openRef o (a ++ b) = Expect.openRef (Expect.openRef o a) b
  | [], _, _ => rfl
  | x :: a, b, o => by simp [Expect.openRef, openRef_append a b]

/-- An open reference stays open over reference bytes; `rest` ends closed, so it is longer than the name `n`. -/
theorem ref_inside : ∀ (n : Bytes), (∀ b ∈ n, Expect.refByte b = true) → ∀ (c : UInt8) (rest w r : Bytes),
    Expect.openRef true rest = false → rest ++ w = n ++ c :: r → ∃ r', rest = n ++ c :: r'
  | _, _, _, [], _, _, ho, _ => by simp [Expect.openRef] at ho
  | [], _, c, x :: rest, w, r, _, h => by
    injection h with hx _
    exact ⟨rest, by rw [hx]; rfl⟩
  | a :: n, hn, c, x :: rest, w, r, ho, h => by
    injection h with hx h
    subst hx
    have ho' : Expect.openRef true rest = false := by
      simpa [Expect.openRef, hn x List.mem_cons_self] using ho
    obtain ⟨r', rfl⟩ := ref_inside n (fun b hb => hn b (List.mem_cons_of_mem _ hb)) c rest w r ho' h
    exact ⟨r', rfl⟩

theorem noRef_append (n : Bytes) (hn : ∀ b ∈ n, Expect.refByte b = true) (b : UInt8) (rest w : Bytes)
    (h : Expect.openRef false (b :: rest) = false) (hno : ∀ r, b = 38 → rest = n ++ 59 :: r → False) :
    ∀ r, b = 38 → rest ++ w = n ++ 59 :: r → False := by
  intro r hb hr
  subst hb
  obtain ⟨r', hr'⟩ := ref_inside n hn 59 rest w r h hr
  exact hno r' rfl hr'

theorem decode_append_closed {v w : Bytes} (h : Expect.openRef false v = false) :
    decodeRefs (v ++ w) = decodeRefs v ++ decodeRefs w := by
  induction v using decodeRefs.induct with
  -- the five references `&amp;` `&lt;` `&gt;` `&#34;` `&#39;`: one decoded byte, then the rest
  | case1 rest ih | case2 rest ih | case3 rest ih | case4 rest ih | case5 rest ih => exact congrArg (_ :: ·) (ih h)
  -- any other byte `b` is copied; `h1 … h5` say that none of the five references starts here, and that stays so with `w` appended
  | case6 b rest h1 h2 h3 h4 h5 ih =>
    rw [decodeRefs.eq_6 b rest h1 h2 h3 h4 h5, List.cons_append, decodeRefs.eq_6, ih (openRef_mono _ rest h),
      List.cons_append]
    · exact noRef_append [97, 109, 112] (by decide) b rest w h h1
    · exact noRef_append [108, 116] (by decide) b rest w h h2
    · exact noRef_append [103, 116] (by decide) b rest w h h3
    · exact noRef_append [35, 51, 52] (by decide) b rest w h h4
    · exact noRef_append [35, 51, 57] (by decide) b rest w h h5
  | case7 => rfl

theorem openRef_escapeByte (b : UInt8) : Expect.openRef false (escapeByte b) = false :=
  (escapeByte_cases b).elim ((by decide : ∀ b ∈ special, Expect.openRef false (escapeByte b) = false) b)
    fun h => by simp [h.1, Expect.openRef, h.2.1]

theorem openRef_escape : ∀ (s : Bytes), Expect.openRef false (escape s) = false
  | [] => rfl
  | b :: rest => by
    rw [escape, openRef_append, openRef_escapeByte b]
    exact openRef_escape rest

theorem decodeRefs_eq_nil (v : Bytes) : decodeRefs v = [] ↔ v = [] := by
  fun_induction decodeRefs v <;> simp


/-- Inside a start tag: the tag name is read, every attribute written so far is finished or pending. -/
def TagRel (σ : S) (t : Expect.T) (name : Bytes) : Prop :=
  ((σ.st = .tagName ∧ σ.hasAttr = false) ∨ σ.st = .afterAttrValueQ ∨ (σ.st = .attrName ∧ σ.hasAttr = true)) ∧
  σ.name = name ∧ σ.isEnd = false ∧ σ.text = [] ∧ (finishAttr σ).attrs = t.attrs ∧ σ.out = t.toks ∧ t.text = []

theorem nameByte_eq : Expect.nameByte = niceNameByte := rfl

theorem TagRel.inTag {σ : S} {t : Expect.T} {name : Bytes} (h : TagRel σ t name) : inTag σ :=
  h.1.elim (fun h => .inl h.1) fun h => h.elim (fun h => .inr (.inr (.inl h))) fun h => .inr (.inr (.inr h.1))

/-- The fragment's attribute names are the names of `Proofs.Html` (`nameByte_eq`, by unfolding). -/
theorem nameOK_nice {n : Bytes} (h : Expect.nameOK n = true) : niceName n = true := h

theorem nameOK_escape {n : Bytes} (h : Expect.nameOK n = true) : escape n = n := by
  have h := nameOK_nice h
  simp only [niceName, Bool.and_eq_true] at h
  exact escape_nice _ h.2

theorem tagOK_parts {name : Bytes} (h : Expect.tagOK name = true) :
    ∃ b rest, name = b :: rest ∧ (97 ≤ b && b ≤ 122) = true ∧ rest.all niceNameByte = true ∧
      rcdataNames.contains name = false ∧ rawtextNames.contains name = false := by
  cases name with
  | nil => simp [Expect.tagOK] at h
  | cons b rest =>
    refine ⟨b, rest, rfl, ?_⟩
    simp only [Expect.tagOK, Bool.and_eq_true, nameByte_eq, Bool.not_eq_true'] at h
    exact ⟨by simp [h.1.1.1], h.1.1.2, h.1.2, h.2⟩

theorem tagOK_escape {n : Bytes} (h : Expect.tagOK n = true) : escape n = n := by
  obtain ⟨b, rest, rfl, h1, h2, _, _⟩ := tagOK_parts h
  exact escape_nice _ (by simp [niceNameByte, h1, h2])

theorem flush_text (t : Expect.T) : t.flush.text = [] := by
  unfold Expect.T.flush
  split
  · simp_all
  · rfl

theorem flush_attrs (t : Expect.T) : t.flush.attrs = t.attrs := by
  unfold Expect.T.flush
  split <;> rfl

theorem flush_rel {σ : S} {t : Expect.T} (h2 : σ.out = t.toks) (h3 : decodeRefs σ.text = t.text) :
    (flushText σ).out = t.flush.toks ∧ (flushText σ).text = [] := by
  unfold flushText Expect.T.flush
  by_cases he : σ.text = []
  · have : t.text = [] := by rw [← h3, he]; rfl
    simp [he, this, h2]
  · have : t.text ≠ [] := by rw [← h3]; exact fun h => he ((decodeRefs_eq_nil _).1 h)
    simp [he, this, h2, h3]

theorem flushText_fields (σ : S) : (flushText σ).st = σ.st ∧ (flushText σ).name = σ.name ∧ (flushText σ).isEnd = σ.isEnd
    ∧ (flushText σ).attrs = σ.attrs ∧ (flushText σ).hasAttr = σ.hasAttr ∧ (flushText σ).an = σ.an ∧ (flushText σ).av = σ.av := by
  unfold flushText; split <;> simp

-- The pieces below are stated for the bytes as `Denote` writes them, from any tokenizer state.

theorem run_write (st : Sem.St) (x : Bytes) : run {} (st.write x).out = run (run {} st.out) x := run_append ..

theorem open_lt {σ : S} {t : Expect.T} {name : Bytes} (h : Rel σ t) (hn : Expect.tagOK name = true) :
    TagRel (run σ (Sem.lt ++ escape name)) { t.flush with attrs := [] } name := by
  rw [tagOK_escape hn]
  obtain ⟨b, rest, rfl, hb, hrest, _, _⟩ := tagOK_parts hn
  rw [show run σ (Sem.lt ++ b :: rest) = _ from run_tagOpen h.1 false hb hrest]
  have hf := flush_rel h.2.1 h.2.2.1
  simp [TagRel, finishAttr, hf.1, hf.2, flush_text]

theorem close_tag {σ : S} {t : Expect.T} {name : Bytes} (h : Rel σ t) (hn : Expect.tagOK name = true) :
    Rel (run σ (Sem.ltSlash ++ escape name ++ Sem.gt)) (t.endTag name) := by
  rw [tagOK_escape hn]
  obtain ⟨b, rest, rfl, hb, hrest, _, _⟩ := tagOK_parts hn
  rw [run_append, show run σ (Sem.ltSlash ++ b :: rest) = _ from run_tagOpen h.1 true hb hrest,
    show Sem.gt = [62] from rfl, run_cons, run_nil, step_gt (.inl rfl)]
  have hf := flush_rel h.2.1 h.2.2.1
  simp [Rel, emitTag, finishAttr, hf.1, hf.2, Expect.T.endTag, flush_text, decodeRefs, Expect.openRef]

theorem close_gt {σ : S} {t : Expect.T} {name : Bytes} (h : TagRel σ t name) (hn : Expect.tagOK name = true) :
    Rel (run σ Sem.gt) { t with toks := Token.startTag name t.attrs false :: t.toks, attrs := [] } := by
  obtain ⟨_, _, _, _, _, hrc, hrw⟩ := tagOK_parts hn
  rw [show Sem.gt = [62] from rfl, run_cons, run_nil, step_gt h.inTag]
  obtain ⟨_, hname, hend, htext, hattrs, hout, ht⟩ := h
  have hrc : name ∉ rcdataNames := by simpa using hrc
  have hrw : name ∉ rawtextNames := by simpa using hrw
  simp [Rel, emitTag, hname, hend, htext, hattrs, hout, ht, hrc, hrw, decodeRefs, Expect.openRef]

theorem out_bool {σ : S} {t : Expect.T} {el n : Bytes} (h : TagRel σ t el) (hn : Expect.nameOK n = true) :
    TagRel (run σ (sp ++ escape n)) (t.addAttr n []) el := by
  rw [nameOK_escape hn, show sp ++ n = 32 :: n from rfl, run_sp_name h.inTag (nameOK_nice hn)]
  obtain ⟨_, hname, hend, htext, hattrs, hout, ht⟩ := h
  have hf := finishAttr_fields σ
  simp only [startAttr]
  generalize finishAttr σ = φ at hf hattrs ⊢
  simp [TagRel, finishAttr, hf, hname, hend, htext, hattrs, hout, ht, Expect.T.addAttr, decodeRefs]

theorem out_valued {σ : S} {t : Expect.T} {el n : Bytes} (v : Bytes) (h : TagRel σ t el) (hn : Expect.nameOK n = true) :
    TagRel (run σ (sp ++ escape n ++ eqDq ++ escape v ++ dq)) (t.addAttr n v) el := by
  rw [show sp ++ escape n ++ eqDq ++ escape v ++ dq = Attrs.valued n v by simp [Attrs.valued, sp, eqDq, dq],
    attr_valued_tokens _ h.inTag n v (nameOK_nice hn)]
  obtain ⟨_, hname, hend, htext, hattrs, hout, ht⟩ := h
  have hf := finishAttr_fields σ
  generalize finishAttr σ = φ at hf hattrs ⊢
  simp [TagRel, finishAttr, hf, hname, hend, htext, hattrs, hout, ht, Expect.T.addAttr]

theorem text_plain {σ : S} {t : Expect.T} {v : Bytes} (h : Rel σ t) (h60 : ∀ c ∈ v, c ≠ 60)
    (ho : Expect.openRef false v = false) : Rel (run σ v) (t.addText (decodeRefs v)) := by
  obtain ⟨h1, h2, h3, h4⟩ := h
  rw [run_data_plain h1 h60]
  refine ⟨h1, h2, ?_, ?_⟩
  · simp [Expect.T.addText, decode_append_closed h4, h3]
  · simp [openRef_append, h4, ho]

theorem text_sp {σ : S} {t : Expect.T} (h : Rel σ t) : Rel (run σ sp) (t.addText sp) :=
  text_plain (v := [32]) h (by simp) (by decide)

theorem text_escaped {σ : S} {t : Expect.T} (v : Bytes) (h : Rel σ t) : Rel (run σ (escape v)) (t.addText v) := by
  obtain ⟨h1, h2, h3, h4⟩ := h
  rw [hole_data σ h1]
  refine ⟨h1, h2, ?_, ?_⟩
  · simp [Expect.T.addText, decode_append_closed h4, h3, decode_escape]
  · rw [openRef_append, h4]; exact openRef_escape v


theorem writeEscaped_ok {env : Env} {e : Bytes} {st : Sem.St} (h : (writeEscaped env e st).err = false) :
    ∃ v, peek env e = some (.str v false) ∧ (writeEscaped env e st).out = st.out ++ escape v := by
  have h0 := PrefixBase.writeEscaped_cont.ok h
  rw [writeEscaped, if_neg (ne_true_of_eq_false h0)] at h ⊢
  rw [← eval_peek env e st]
  have ho := eval_out env e st
  have hn := eval_none env e st
  generalize eval env e st = r at h ho hn ⊢
  split at h
  · exact ⟨_, rfl, by rw [← ho]; rfl⟩
  · cases h
  · cases h
  · cases (hn rfl).symm.trans h

theorem guard_ok {x y : Sem.St} (h : (if x.err = true then x else y).err = false) :
    x.err = false ∧ (if x.err = true then x else y) = y := by
  cases hx : x.err with
  | false => simp
  | true => simp [hx] at h

mutual
theorem attrs_rel (el : Bytes) : (as : Attrs) → (env : Env) → (st : Sem.St) → (t : Expect.T) →
    Expect.attrsOK as = true → TagRel (run {} st.out) t el → (Denote.attrs true el as env st).err = false →
    TagRel (run {} (Denote.attrs true el as env st).out) (Expect.attrs as env t) el
  | .nil, _, _, _, _, hr, _ => hr
  | .cons a as, env, st, t, hf, hr, hok => by
    simp only [Expect.attrsOK, Bool.and_eq_true] at hf
    rw [Denote.attrs] at hok ⊢
    exact attrs_rel el as env _ _ hf.2 (attr_rel el a env st t hf.1 hr (PrefixBase.attrs_cont.ok hok)) hok
theorem attr_rel (el : Bytes) : (a : Attr) → (env : Env) → (st : Sem.St) → (t : Expect.T) →
    Expect.attrOK a = true → TagRel (run {} st.out) t el → (Denote.attr true el a env st).err = false →
    TagRel (run {} (Denote.attr true el a env st).out) (Expect.attr a env t) el
  | a, env, st, t, hf, hr, hok => by
    cases a with
    | boolConst name =>
      rw [Denote.attr, if_neg (ne_true_of_eq_false (PrefixBase.attr_cont.ok hok)), run_write]
      exact out_bool hr hf
    | const name value _ =>
      rw [Denote.attr, if_neg (ne_true_of_eq_false (PrefixBase.attr_cont.ok hok)), run_write]
      exact out_valued value hr hf
    | boolExpr name e =>
      have h0 := PrefixBase.attr_cont.ok hok
      rw [Denote.attr, if_neg (ne_true_of_eq_false h0)] at hok ⊢
      rw [Expect.attr, ← eval_peek env e st]
      have ho := eval_out env e st
      have hn := eval_none env e st
      generalize eval env e st = r at hok ho hn ⊢
      split at hok
      · rw [run_write, ho]
        exact out_bool hr hf
      · exact ho ▸ hr
      · cases hok
      · cases (hn rfl).symm.trans hok
    | expr name e =>
      have h0 := PrefixBase.attr_cont.ok hok
      simp only [Expect.attrOK, Bool.and_eq_true, Bool.not_eq_true'] at hf
      obtain ⟨hn, hs⟩ := hf
      simp only [Denote.attr, h0, Expect.attr, if_false, Bool.false_eq_true, nameOK_escape hn, hs, Bool.true_and, ite_self] at hok ⊢
      obtain ⟨hw, e2⟩ := guard_ok hok
      rw [e2]
      split
      · rename_i hc
        simp only [hc, if_true] at hw ⊢
        split at hw
        · rename_i c hp
          simp only [hp]
          simpa [St.write, nameOK_escape hn, ← run_append] using out_valued c hr hn
        · cases hw
      · rename_i hc
        simp only [hc] at hw ⊢
        obtain ⟨v, hp, ho⟩ := writeEscaped_ok hw
        simp only [hp]
        rw [show ∀ x : Sem.St, (x.write dq).out = x.out ++ dq from fun _ => rfl, ho]
        simpa [St.write, nameOK_escape hn, ← run_append] using out_valued v hr hn
    | spread _ => cases hf
    | cond c thn els =>
      simp only [Expect.attrOK, Bool.and_eq_true] at hf
      have h0 := PrefixBase.attr_cont.ok hok
      rw [Denote.attr, if_neg (ne_true_of_eq_false h0)] at hok ⊢
      rw [Expect.attr, ← eval_peek env c st]
      have ho := eval_out env c st
      have hn := eval_none env c st
      generalize eval env c st = r at hok ho hn ⊢
      split at hok
      · exact attrs_rel el thn env _ t hf.1 (ho ▸ hr) hok
      · exact attrs_rel el els env _ t hf.2 (ho ▸ hr) hok
      · cases hok
      · cases (hn rfl).symm.trans hok
end


mutual
theorem reachedScripts_ok (strict : Bool) (env : Env) : (as : Attrs) → Expect.attrsOK as = true →
    Denote.reachedScripts strict env as = []
  | .nil, _ => rfl
  | .cons a as, h => by
    simp only [Expect.attrsOK, Bool.and_eq_true] at h
    simp [Denote.reachedScripts, reachedScriptsOne_ok strict env a h.1, reachedScripts_ok strict env as h.2]
theorem reachedScriptsOne_ok (strict : Bool) (env : Env) : (a : Attr) → Expect.attrOK a = true →
    Denote.reachedScriptsOne strict env a = []
  | a, h => by
    cases a with
    | expr name e =>
      simp only [Expect.attrOK, Bool.and_eq_true, Bool.not_eq_true'] at h
      simp [Denote.reachedScriptsOne, nameOK_escape h.1, h.2]
    | cond c thn els =>
      simp only [Expect.attrOK, Bool.and_eq_true] at h
      simp only [Denote.reachedScriptsOne, reachedScripts_ok strict env thn h.1, reachedScripts_ok strict env els h.2]
      cases strict
      · simp
      · simp only [if_true]
        split <;> rfl
    | _ => rfl
end

theorem announceClasses_out {env : Env} : {es : List Bytes} → {st : Sem.St} → (Denote.announceClasses env es st).out = st.out
  | [], _ => rfl
  | e :: es, st => by
    rw [Denote.announceClasses]
    split
    · rfl
    · have ho := eval_out env e st
      generalize eval env e st = r at ho ⊢
      split
      · exact announceClasses_out.trans ho
      · exact ho
      · exact ho

theorem announceClasses_ok_start (env : Env) (es : List Bytes) (st : Sem.St)
    (h : (Denote.announceClasses env es st).err = false) : st.err = false :=
  PrefixBase.announceClasses_cont.ok h

theorem openTag_rel {strict : Bool} {name : Bytes} {as : Attrs} {env : Env} {st : Sem.St} {t : Expect.T}
    (hn : Expect.tagOK name = true) (hf : Expect.attrsOK as = true) (hr : Rel (run {} st.out) t)
    (hok : (Denote.openTag strict true name as env st).err = false) :
    Rel (run {} (Denote.openTag strict true name as env st).out) (Expect.openTag name as env t) := by
  have h0 := PrefixBase.openTag_cont.ok hok
  cases as with
  | nil =>
    simp only [Denote.openTag, h0, if_false, Bool.false_eq_true, Expect.openTag, Expect.attrs]
    rw [run_write, run_append]
    exact close_gt (open_lt hr hn) hn
  | cons a as =>
    simp only [Denote.openTag, h0, if_false, Bool.false_eq_true, if_true, reachedScripts_ok strict env _ hf,
      Denote.announceScripts, List.isEmpty_nil, Bool.or_true] at hok ⊢
    generalize hst1 : Denote.announceClasses env (Denote.reachedClasses strict env (Attrs.cons a as)) st = st1 at hok ⊢
    have ho1 : st1.out = st.out := by rw [← hst1]; exact announceClasses_out
    obtain ⟨h1, e1⟩ := guard_ok hok
    rw [e1] at hok ⊢
    obtain ⟨h2, e2⟩ := guard_ok hok
    rw [e2, run_write]
    refine close_gt (attrs_rel name (.cons a as) env (st1.write (Sem.lt ++ escape name)) _ hf ?_ h2) hn
    rw [run_write, ho1]
    exact open_lt hr hn


theorem space_rel {cur : Node} {next : Bool} {st : Sem.St} {t : Expect.T} (h0 : st.err = false)
    (hr : Rel (run {} st.out) t) :
    Rel (run {} (Denote.space cur next st).out) (Expect.space cur next t) := by
  simp only [Denote.space, Expect.space, h0, if_false, Bool.false_eq_true]
  split
  · rw [run_write]
    exact text_sp hr
  · exact hr

theorem iterate_rel {f : Env → Sem.St → Sem.St} {g : Env → Expect.T → Expect.T} {env : Env} :
    ∀ {bs : List (List (Bytes × Bytes))} {st : Sem.St} {t : Expect.T},
    Rel (run {} st.out) t → (iterate bs f env st).err = false → (∀ {env st}, PrefixBase.Cont st (f env st)) →
    (∀ {env st t}, Rel (run {} st.out) t → (f env st).err = false → Rel (run {} (f env st).out) (g env t)) →
    Rel (run {} (iterate bs f env st).out) (Expect.iterate bs g env t)
  | [], _, _, hr, _, _, _ => hr
  | b :: bs, st, t, hr, hok, hmono, hfg => by
    simp only [iterate, Expect.iterate, List.foldl_cons] at hok ⊢
    exact iterate_rel (hfg hr ((PrefixBase.iterate_cont @hmono).ok hok)) hok @hmono @hfg

theorem writeEscaped_ok_start (env : Env) (e : Bytes) (st : Sem.St) (h : (writeEscaped env e st).err = false) :
    st.err = false := PrefixBase.writeEscaped_cont.ok h

theorem textOK_parts {v : Bytes} (h : Expect.textOK v = true) : (∀ c ∈ v, c ≠ 60) ∧ Expect.openRef false v = false := by
  simp only [Expect.textOK, Bool.and_eq_true, List.all_eq_true, Bool.not_eq_true'] at h
  exact ⟨fun c hc => by simpa using h.1 c hc, h.2⟩

mutual
theorem node_rel (strict : Bool) : (n : Node) → (next : Bool) → (env : Env) → (st : Sem.St) → (t : Expect.T) →
    Expect.nodeOK n = true → Rel (run {} st.out) t → (Denote.node strict n next env st).err = false →
    Rel (run {} (Denote.node strict n next env st).out) (Expect.node n next env t)
  | n, next, env, st, t, hf, hr, hok => by
    cases n with
    | element name as children tr ia ic =>
      simp only [Expect.nodeOK, Bool.and_eq_true] at hf
      obtain ⟨⟨hn, has⟩, hch⟩ := hf
      simp only [Denote.node, Expect.node] at hok ⊢
      have h1 := PrefixBase.space_cont.ok hok
      apply space_rel h1
      split
      · rename_i hv      -- a void element without children: the open tag is all
        simp only [hv, if_true] at h1
        exact openTag_rel hn has hr h1
      · rename_i hv
        simp only [hv, if_false, Bool.false_eq_true] at h1
        obtain ⟨h2, e2⟩ := guard_ok h1
        rw [e2]
        have h3 := PrefixBase.nodes_cont.ok h2
        rw [run_write]
        exact close_tag
          (nodes_rel strict true true children false env _ _ hch (openTag_rel hn has hr h3) h2) hn
    | forE e body =>
      have h0 := PrefixBase.node_cont.ok hok
      simp only [Expect.nodeOK] at hf
      rw [Denote.node, if_neg (ne_true_of_eq_false h0)] at hok ⊢
      rw [Expect.node, ← eval_peek env e st]
      have ho := eval_out env e st
      have hn := eval_none env e st
      generalize eval env e st = r at hok ho hn ⊢
      split at hok
      · exact iterate_rel (ho ▸ hr) hok PrefixBase.nodes_cont
          fun hr hok => nodes_rel strict false true body next _ _ _ hf hr hok
      · cases hok
      · cases (hn rfl).symm.trans hok
    | ifE e thn elifs els =>
      have h0 := PrefixBase.node_cont.ok hok
      simp only [Expect.nodeOK, Bool.and_eq_true] at hf
      rw [Denote.node, if_neg (ne_true_of_eq_false h0)] at hok ⊢
      rw [Expect.node, ← eval_peek env e st]
      have ho := eval_out env e st
      have hn := eval_none env e st
      generalize eval env e st = r at hok ho hn ⊢
      split at hok
      · exact nodes_rel strict false true thn next env _ t hf.1.1 (ho ▸ hr) hok
      · rename_i s
        have hE := elseIfs_rel strict elifs next env s t hf.1.2 (ho ▸ hr)
        generalize Denote.elseIfs strict elifs next env s = d at hok hE ⊢
        generalize Expect.elseIfs elifs next env t = x at hE ⊢
        -- `b1`, `b2`: whether the chain took a branch (equal by `hE`); if not, the `else` arm follows
        obtain ⟨b1, s2⟩ := d
        obtain ⟨b2, t2⟩ := x
        cases b1
        · obtain ⟨hb, hr2⟩ := hE (PrefixBase.nodes_cont.ok hok)
          cases hb
          exact nodes_rel strict false true els next env s2 t2 hf.2 hr2 hok
        · obtain ⟨hb, hr2⟩ := hE hok
          cases hb
          exact hr2
      · cases hok
      · cases (hn rfl).symm.trans hok
    | switchE e cs =>
      have h0 := PrefixBase.node_cont.ok hok
      simp only [Expect.nodeOK] at hf
      rw [Denote.node, if_neg (ne_true_of_eq_false h0)] at hok ⊢
      rw [Expect.node, ← eval_peek env e st]
      have ho := eval_out env e st
      have hn := eval_none env e st
      generalize eval env e st = r at hok ho hn ⊢
      split at hok
      · rename_i v s
        dsimp only
        generalize caseIndex env v (Denote.caseTexts cs) = ci at hok ⊢
        cases ci with
        | none => exact ho ▸ hr
        | some i => exact case_rel strict cs i next env s t hf (ho ▸ hr) hok
      · cases hok
      · cases (hn rfl).symm.trans hok
    | strExpr e tr =>
      simp only [Denote.node, Expect.node] at hok ⊢
      have h1 := PrefixBase.space_cont.ok hok
      apply space_rel h1
      split
      · exact hr
      · rename_i hb
        simp only [hb, if_false, Bool.false_eq_true] at h1
        obtain ⟨v, hp, ho⟩ := writeEscaped_ok h1
        rw [ho, hp, run_append]
        exact text_escaped v hr
    | goCode e _ _ =>
      rw [Denote.node]
      split
      · exact hr
      · have ho := eval_out env e st
        generalize eval env e st = r at ho ⊢
        split <;> exact ho ▸ hr
    | ws v =>
      have h0 := PrefixBase.node_cont.ok hok
      simp only [Denote.node, Expect.node, h0, Bool.false_or]
      split
      · exact hr
      · rw [run_write]; exact text_sp hr
    | text v tr =>
      have h0 := PrefixBase.node_cont.ok hok
      simp only [Expect.nodeOK] at hf
      obtain ⟨h60, ho⟩ := textOK_parts hf
      simp only [Denote.node, Expect.node, h0, if_false, Bool.false_eq_true]
      apply space_rel (st := st.write v) h0
      rw [run_write]
      exact text_plain hr h60 ho
    | goComment _ _ => exact hr
    | _ => cases hf
theorem nodes_rel (strict : Bool) : (all atStart : Bool) → (ns : Nodes) → (next : Bool) → (env : Env) → (st : Sem.St) →
    (t : Expect.T) → Expect.nodesOK ns = true → Rel (run {} st.out) t →
    (Denote.nodes strict all atStart ns next env st).err = false →
    Rel (run {} (Denote.nodes strict all atStart ns next env st).out) (Expect.nodes all atStart ns next env t)
  | all, atStart, .nil, next, env, st, t, hf, hr, hok => hr
  | all, atStart, .cons n rest, next, env, st, t, hf, hr, hok => by
    simp only [Expect.nodesOK, Bool.and_eq_true] at hf
    rw [Denote.nodes] at hok ⊢
    rw [Expect.nodes]
    by_cases hc : (n.isWs && (all || atStart || rest.allWs)) = true
    · simp only [if_pos hc] at hok ⊢
      exact nodes_rel strict all atStart rest next env st t hf.2 hr hok
    · simp only [if_neg hc] at hok ⊢
      have h1 := PrefixBase.nodes_cont.ok hok
      exact nodes_rel strict all false rest next env _ _ hf.2 (node_rel strict n _ env st t hf.1 hr h1) hok
/-- `.1` of an else-if chain says whether a branch was taken (or evaluation stopped); both readings agree on it. -/
theorem elseIfs_rel (strict : Bool) : (es : ElseIfs) → (next : Bool) → (env : Env) → (st : Sem.St) → (t : Expect.T) →
    Expect.elseIfsOK es = true → Rel (run {} st.out) t → (Denote.elseIfs strict es next env st).2.err = false →
    (Denote.elseIfs strict es next env st).1 = (Expect.elseIfs es next env t).1 ∧
    Rel (run {} (Denote.elseIfs strict es next env st).2.out) (Expect.elseIfs es next env t).2
  | .nil, _, _, _, _, _, hr, _ => ⟨rfl, hr⟩
  | .cons e thn rest, next, env, st, t, hf, hr, hok => by
    simp only [Expect.elseIfsOK, Bool.and_eq_true] at hf
    rw [Denote.elseIfs] at hok ⊢
    rw [Expect.elseIfs, ← eval_peek env e st]
    have ho := eval_out env e st
    have hn := eval_none env e st
    generalize eval env e st = r at hok ho hn ⊢
    split at hok
    · exact ⟨rfl, nodes_rel strict false true thn next env _ t hf.1 (ho ▸ hr) hok⟩
    · exact elseIfs_rel strict rest next env _ t hf.2 (ho ▸ hr) hok
    · cases hok
    · cases (hn rfl).symm.trans hok
theorem case_rel (strict : Bool) : (cs : Cases) → (i : Nat) → (next : Bool) → (env : Env) → (st : Sem.St) → (t : Expect.T) →
    Expect.casesOK cs = true → Rel (run {} st.out) t → (Denote.case strict cs i next env st).err = false →
    Rel (run {} (Denote.case strict cs i next env st).out) (Expect.case cs i next env t)
  | .nil, i, next, env, st, t, hf, hr, hok => hr
  | .cons c body rest, 0, next, env, st, t, hf, hr, hok => by
    simp only [Expect.casesOK, Bool.and_eq_true] at hf
    simp only [Denote.case, Expect.case] at hok ⊢
    exact nodes_rel strict false true body next env st t hf.1 hr hok
  | .cons c body rest, i + 1, next, env, st, t, hf, hr, hok => by
    simp only [Expect.casesOK, Bool.and_eq_true] at hf
    simp only [Denote.case, Expect.case] at hok ⊢
    exact case_rel strict rest i next env st t hf.2 hr hok
end


theorem compose (strict : Bool) (body : Nodes) (env : Env) (hf : Expect.nodesOK body = true)
    (hok : (Denote.nodes strict true true body false env {}).err = false) :
    tokenize (Denote.nodes strict true true body false env {}).out = Expect.tokens body env := by
  have h0 : Rel (run {} ({} : Sem.St).out) {} := ⟨rfl, rfl, rfl, rfl⟩
  have h := nodes_rel strict true true body false env {} {} hf h0 hok
  have hfl := flush_rel h.2.1 h.2.2.1
  simp only [tokenize, finish, Expect.tokens, h.1, hfl.1]

end TemplVerif.Proofs.Compose
