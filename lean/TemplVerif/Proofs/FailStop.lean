import TemplVerif.Model.Denote
import TemplVerif.Proofs.Bytes
import TemplVerif.Proofs.Fresh
/-
The render state `Sem.St` and the one discipline every function of the denotation keeps: a state that has failed
is left as it is, and otherwise document and trace only grow (`Cont`). C01's composition, C10's prefix theorem and
C12's once-only emission all rest on `nodes_cont`. The declarations stand in the namespaces under which the property
theorems cite them: `Proofs.Gen` (what `write`, `stick`, `fail` do to a field), `Proofs.Compose` (`eval`), and
`Proofs.PrefixBase` (`Le`, `Cont` and everything about `Denote`).
-/
namespace TemplVerif.Proofs.Gen
open TemplVerif TemplVerif.Sem

@[simp] theorem write_nil (st : St) : st.write [] = st := by simp [St.write]
@[simp] theorem write_write (st : St) (a b : Bytes) : (st.write a).write b = st.write (a ++ b) := by
  simp [St.write]
@[simp] theorem write_err (st : St) (a : Bytes) : (st.write a).err = st.err := rfl
@[simp] theorem stick_err (st : St) : st.stick.err = true := rfl
@[simp] theorem fail_err (st : St) : st.fail.err = true := rfl

end TemplVerif.Proofs.Gen

namespace TemplVerif.Proofs.Compose
open TemplVerif TemplVerif.Sem

theorem eval_out (env : Env) (e : Bytes) (st : St) : (eval env e st).2.out = st.out := by
  unfold eval; split <;> rfl

theorem eval_err_mono (env : Env) (e : Bytes) (st : St) (h : st.err = true) : (eval env e st).2.err = true := by
  unfold eval; split <;> simp [St.stick, h]

theorem eval_none (env : Env) (e : Bytes) (st : St) (h : (eval env e st).1 = none) : (eval env e st).2.err = true := by
  unfold eval at h ⊢
  split at h
  · rfl
  · cases h

theorem eval_peek (env : Env) (e : Bytes) (st : St) : (eval env e st).1 = peek env e := by
  unfold eval peek
  cases env.lookup e <;> rfl

theorem eval_err_of_some (env : Env) (e : Bytes) (st : St) {v : Val} (h : (eval env e st).1 = some v) :
    (eval env e st).2.err = st.err := by
  unfold eval at h ⊢
  split at h
  · cases h
  · rfl

end TemplVerif.Proofs.Compose

namespace TemplVerif.Proofs.PrefixBase
open TemplVerif TemplVerif.Ast TemplVerif.Sem

/-- `b` continues `a`: document and trace are extended, and the emitted script names stay pairwise different (the
    clause C12 reads off `nodes_cont`). `err` and `stuck` are not looked at, so an arm that only fails or sticks is
    closed by the hypothesis it has (`Le.fail`, `Le.of_fail`, `Le.of_stick` hold by `id`). -/
def Le (a b : St) : Prop := a.out <+: b.out ∧ a.trace <+: b.trace ∧ (a.scripts.Nodup → b.scripts.Nodup)

theorem Le.refl (a : St) : Le a a := ⟨List.prefix_refl _, List.prefix_refl _, id⟩

theorem Le.trans {a b c : St} (h1 : Le a b) (h2 : Le b c) : Le a c :=
  ⟨h1.1.trans h2.1, h1.2.1.trans h2.2.1, fun h => h2.2.2 (h1.2.2 h)⟩

theorem Le.write {a s : St} (x : Bytes) (h : Le a s) : Le a (s.write x) :=
  ⟨h.1.trans (List.prefix_append _ _), h.2.1, h.2.2⟩

theorem Le.fail {a s : St} (h : Le a s) : Le a s.fail := h

theorem Le.of_fail {a s : St} (h : Le a s) : Le a.fail s := h
theorem Le.of_stick {a s : St} (h : Le a s) : Le a.stick s := h

theorem Le.ite {a x y : St} {c : Prop} [Decidable c] (hx : Le a x) (hy : Le a y) : Le a (if c then x else y) := by
  split <;> assumption

theorem Le.gwrite {a s : St} (x : Bytes) (h : Le a s) : Le a (if s.err = true then s else s.write x) :=
  Le.ite h (h.write x)

/-- `t` is `s` after some more rendering: nothing at all once `s` has failed -/
def Cont (s t : St) : Prop := (s.err = true → t = s) ∧ Le s t

theorem Cont.refl (s : St) : Cont s s := ⟨fun _ => rfl, Le.refl s⟩

theorem Cont.trans {a b c : St} (h1 : Cont a b) (h2 : Cont b c) : Cont a c :=
  ⟨fun h => by have hb := h1.1 h; rw [h2.1 (hb ▸ h), hb], h1.2.trans h2.2⟩

theorem Cont.ok {s t : St} (h : Cont s t) (ht : t.err = false) : s.err = false := by
  cases hs : s.err with
  | false => rfl
  | true => rw [h.1 hs, hs] at ht; exact ht

/-- behind the guard that opens almost every clause of the denotation only growth is left to show -/
theorem Cont.guard {s t : St} (h : s.err = false → Le s t) : Cont s (if s.err = true then s else t) := by
  cases hs : s.err with
  | true => exact Cont.refl s
  | false => exact ⟨fun h' => absurd (hs ▸ h') (by decide), h hs⟩

theorem Cont.gwrite {s : St} {x : Bytes} : Cont s (if s.err = true then s else s.write x) :=
  Cont.guard fun _ => (Le.refl s).write x

theorem eval_le (env : Env) (e : Bytes) {a s : St} (h : Le a s) : Le a (eval env e s).2 := by
  unfold eval
  split
  · exact h
  · exact ⟨h.1, h.2.1.trans (List.prefix_append _ _), h.2.2⟩

theorem writeEscaped_cont {env : Env} {e : Bytes} {s : St} : Cont s (writeEscaped env e s) := by
  refine Cont.guard fun _ => ?_
  have he := eval_le env e (Le.refl s)
  generalize eval env e s = r at he ⊢
  split <;> first | exact he | exact he.write _

/-- `Sem.emitScripts` appends the names not emitted before, and writes something or nothing. -/
theorem emitScripts_eq (items : List (Bytes × Bytes)) (st : St) : ∃ x, emitScripts items st =
    { st with scripts := st.scripts ++ fresh st.scripts (items.map (·.1)), out := st.out ++ x } := by
  have h : ∀ acc : List Bytes × Bytes, (items.foldl (fun (acc : List Bytes × Bytes) it =>
      if acc.1.contains it.1 then acc else (acc.1 ++ [it.1], acc.2 ++ it.2)) acc).1 =
        acc.1 ++ fresh acc.1 (items.map (·.1)) := by
    induction items with
    | nil => intro acc; simp [fresh]
    | cons it items ih =>
      intro acc
      rw [List.foldl_cons, List.map_cons, fresh, ih]
      split
      · rfl
      · exact List.append_assoc ..
  unfold emitScripts
  simp only
  split
  · exact ⟨[], by rw [h, List.append_nil]⟩
  · exact ⟨_, by rw [h, List.append_assoc, List.append_assoc]⟩

theorem emitScripts_le (items : List (Bytes × Bytes)) {a s : St} (h : Le a s) : Le a (emitScripts items s) := by
  obtain ⟨x, e⟩ := emitScripts_eq items s
  rw [e]
  exact h.trans ⟨List.prefix_append .., List.prefix_refl _, nodup_append_fresh⟩

theorem evalScripts_cont {env : Env} : {es : List Bytes} → {s : St} → Cont s (evalScripts env es s).2
  | [], s => Cont.refl s
  | e :: es, s => by
    unfold evalScripts
    split
    · exact Cont.refl s
    · rename_i hs
      refine ⟨fun h => absurd h hs, ?_⟩
      have he := eval_le env e (Le.refl s)
      generalize eval env e s = r at he ⊢
      split
      · exact he.trans evalScripts_cont.2
      · exact he
      · exact he

theorem announceClasses_cont {env : Env} : {es : List Bytes} → {s : St} → Cont s (Denote.announceClasses env es s)
  | [], s => Cont.refl s
  | e :: es, s => by
    unfold Denote.announceClasses
    refine Cont.guard fun _ => ?_
    have he := eval_le env e (Le.refl s)
    generalize eval env e s = r at he ⊢
    split
    · exact he.trans announceClasses_cont.2
    · exact he
    · exact he

theorem announceScripts_cont {env : Env} {es : List Bytes} {s : St} : Cont s (Denote.announceScripts env es s) := by
  unfold Denote.announceScripts
  split
  · exact Cont.refl s
  · rename_i hs
    refine ⟨fun h => absurd (by simp [h]) hs, ?_⟩
    have he := (evalScripts_cont (env := env) (es := es) (s := s)).2
    generalize evalScripts env es s = r at he ⊢
    obtain ⟨items, s'⟩ := r
    simp only
    split
    · exact he
    · exact emitScripts_le items he

theorem announceScripts_frozen (env : Env) (es : List Bytes) (st : St) (h : st.err = true) :
    Denote.announceScripts env es st = st := announceScripts_cont.1 h

mutual
theorem attrs_cont {css : Bool} {el : Bytes} : {as : Attrs} → {env : Env} → {s : St} →
    Cont s (Denote.attrs css el as env s)
  | .nil, _, s => Cont.refl s
  | .cons x as, env, s => by
    rw [Denote.attrs]
    exact attr_cont.trans attrs_cont
theorem attr_cont {css : Bool} {el : Bytes} {x : Attr} {env : Env} {s : St} :
    Cont s (Denote.attr css el x env s) := by
  cases x with
  | boolConst _ | const _ _ _ => exact Cont.gwrite
  | boolExpr _ e | spread e =>
    rw [Denote.attr]
    refine Cont.guard fun _ => ?_
    have he := eval_le env e (Le.refl s)
    generalize eval env e s = r at he ⊢
    split <;> first | exact he | exact he.write _
  | expr name e =>
    rw [Denote.attr]
    refine Cont.guard fun _ => Le.gwrite _ ?_
    have h := (Le.refl s).write (sp ++ Html.escape name ++ eqDq)
    have hw := h.trans (writeEscaped_cont (env := env) (e := e)).2
    refine Le.ite ?_ (Le.ite hw (Le.ite ?_ hw))
    · split
      · exact h.write _
      · exact h
    · have he := eval_le env e h
      generalize eval env e (s.write (sp ++ Html.escape name ++ eqDq)) = r at he ⊢
      split <;> first | exact he | exact he.write _
  | cond e thn els =>
    rw [Denote.attr]
    refine Cont.guard fun _ => ?_
    have he := eval_le env e (Le.refl s)
    generalize eval env e s = r at he ⊢
    split
    · exact he.trans attrs_cont.2
    · exact he.trans attrs_cont.2
    · exact he
    · exact he
end

theorem openTag_cont {strict css : Bool} {name : Bytes} {as : Attrs} {env : Env} {s : St} :
    Cont s (Denote.openTag strict css name as env s) := by
  unfold Denote.openTag
  refine Cont.guard fun _ => ?_
  split
  · exact (Le.refl s).write _
  · simp only
    have h1 : Le s (if css = true then Denote.announceClasses env (Denote.reachedClasses strict env as) s else s) :=
      Le.ite announceClasses_cont.2 (Le.refl s)
    generalize (if css = true then Denote.announceClasses env (Denote.reachedClasses strict env as) s else s) = s1 at h1 ⊢
    have h2 := h1.trans (announceScripts_cont (env := env) (es := Denote.reachedScripts strict env as) (s := s1)).2
    generalize Denote.announceScripts env (Denote.reachedScripts strict env as) s1 = s2 at h2 ⊢
    exact Le.ite h2 (Le.gwrite _ ((h2.write _).trans attrs_cont.2))

theorem scriptParts_cont : {ps : List ScriptPart} → {env : Env} → {s : St} → Cont s (Denote.scriptParts ps env s)
  | [], _, s => Cont.refl s
  | .js v :: rest, env, s => by
    rw [Denote.scriptParts]
    exact Cont.gwrite.trans scriptParts_cont
  | .go e inside trail :: rest, env, s => by
    rw [Denote.scriptParts]
    refine Cont.guard fun _ => ?_
    have he := eval_le env e (Le.refl s)
    generalize eval env e s = r at he ⊢
    split
    · exact (he.write _).trans scriptParts_cont.2
    · exact he
    · exact he
    · exact he

theorem space_cont {cur : Node} {next : Bool} {s : St} : Cont s (Denote.space cur next s) := by
  unfold Denote.space
  exact Cont.guard fun _ => Le.ite ((Le.refl s).write _) (Le.refl s)

theorem renderSegs_cont {c : St → St} (hc : ∀ {s}, Cont s (c s)) : {segs : List Bytes} → {s : St} → Cont s (renderSegs c segs s)
  | [], s => Cont.refl s
  | [x], s => Cont.gwrite
  | x :: y :: rest, s => by
    rw [renderSegs]
    · exact Cont.guard fun _ => ((Le.refl s).write x).trans (hc.trans (renderSegs_cont @hc)).2
    · simp

theorem iterate_cont {f : Env → St → St} (hf : ∀ {env s}, Cont s (f env s)) {env : Env} :
    {bs : List (List (Bytes × Bytes))} → {s : St} → Cont s (iterate bs f env s)
  | [], s => Cont.refl s
  | b :: bs, s => by
    simp only [iterate, List.foldl_cons]
    exact hf.trans (iterate_cont @hf)

mutual
theorem node_cont {strict : Bool} {n : Node} {next : Bool} {env : Env} {s : St} :
    Cont s (Denote.node strict n next env s) := by
  cases n with
  | doctype _ | htmlComment _ => exact Cont.gwrite
  | element name as children t ia ic =>
    rw [Denote.node]
    refine Cont.trans ?_ space_cont
    split
    · exact openTag_cont
    · exact (openTag_cont.trans nodes_cont).trans Cont.gwrite
  | children =>
    rw [Denote.node]
    refine Cont.guard fun _ => ?_
    split <;> first | exact Le.refl s | exact (Le.refl s).write _
  | raw name as contents =>
    rw [Denote.node]
    exact openTag_cont.trans Cont.gwrite
  | script as parts =>
    rw [Denote.node]
    exact (openTag_cont.trans scriptParts_cont).trans Cont.gwrite
  | forE e body =>
    rw [Denote.node]
    refine Cont.guard fun _ => ?_
    have he := eval_le env e (Le.refl s)
    generalize eval env e s = r at he ⊢
    split
    · exact he.trans (iterate_cont nodes_cont).2
    · exact he
    · exact he
  | call e =>
    rw [Denote.node]
    refine Cont.guard fun _ => ?_
    have he := eval_le env e (Le.refl s)
    generalize eval env e s = r at he ⊢
    split
    · exact he.trans (renderSegs_cont (Cont.refl _)).2
    · exact he
    · exact he
    · exact he
  | templEl e body =>
    rw [Denote.node]
    refine Cont.guard fun _ => ?_
    have he := eval_le env e (Le.refl s)
    generalize eval env e s = r at he ⊢
    split
    · exact he.trans (renderSegs_cont nodes_cont).2
    · exact he
    · exact he
    · exact he
  | ifE e thn elifs els =>
    rw [Denote.node]
    refine Cont.guard fun _ => ?_
    have he := eval_le env e (Le.refl s)
    generalize eval env e s = r at he ⊢
    split
    · exact he.trans nodes_cont.2
    · have h2 := elseIfs_le strict elifs next env he
      rename_i s1
      generalize Denote.elseIfs strict elifs next env s1 = r2 at h2 ⊢
      split
      · exact h2
      · exact h2.trans nodes_cont.2
    · exact he
    · exact he
  | switchE e cs =>
    rw [Denote.node]
    refine Cont.guard fun _ => ?_
    have he := eval_le env e (Le.refl s)
    generalize eval env e s = r at he ⊢
    split
    · split
      · exact he.trans case_cont.2
      · exact he
    · exact he
    · exact he
  | strExpr e t =>
    rw [Denote.node]
    refine Cont.trans ?_ space_cont
    split
    · exact Cont.refl s
    · exact writeEscaped_cont
  | goCode e _ _ =>
    rw [Denote.node]
    split
    · rename_i h
      exact Cont.refl s
    · rename_i h
      refine ⟨fun h' => absurd (by simp [h']) h, ?_⟩
      have he := eval_le env e (Le.refl s)
      generalize eval env e s = r at he ⊢
      split <;> exact he
  | ws v =>
    rw [Denote.node]
    split
    · exact Cont.refl s
    · rename_i h
      exact ⟨fun h' => absurd (by simp [h']) h, (Le.refl s).write _⟩
  | text v t =>
    rw [Denote.node]
    exact Cont.gwrite.trans space_cont
  | goComment _ _ => exact Cont.refl s
theorem nodes_cont {strict : Bool} : {all atStart : Bool} → {ns : Nodes} → {next : Bool} → {env : Env} → {s : St} →
    Cont s (Denote.nodes strict all atStart ns next env s)
  | _, _, .nil, _, _, s => Cont.refl s
  | all, atStart, .cons n rest, next, env, s => by
    rw [Denote.nodes]
    by_cases hc : (n.isWs && (all || atStart || rest.allWs)) = true
    · rw [if_pos hc]; exact nodes_cont
    · rw [if_neg hc]; exact node_cont.trans nodes_cont
theorem elseIfs_le (strict : Bool) : (es : ElseIfs) → (next : Bool) → (env : Env) → {a s : St} → Le a s →
    Le a (Denote.elseIfs strict es next env s).2
  | .nil, next, env, a, s, h => by rw [Denote.elseIfs]; exact h
  | .cons e thn rest, next, env, a, s, h => by
    rw [Denote.elseIfs]
    have he := eval_le env e h
    generalize eval env e s = r at he ⊢
    split
    · exact he.trans nodes_cont.2
    · exact elseIfs_le strict rest next env he
    · exact he
    · exact he
theorem case_cont {strict : Bool} : {cs : Cases} → {i : Nat} → {next : Bool} → {env : Env} → {s : St} →
    Cont s (Denote.case strict cs i next env s)
  | .nil, _, _, _, s => Cont.refl s
  | .cons _ body _, 0, next, env, s => by rw [Denote.case]; exact nodes_cont
  | .cons _ _ rest, i + 1, next, env, s => by rw [Denote.case]; exact case_cont
end

end TemplVerif.Proofs.PrefixBase
