import TemplVerif.Model.Gen
import TemplVerif.Model.Denote
import TemplVerif.Proofs.GenBase
/-
C02 — the node level. `execs_genNodes`: running the statements generated for a node list is `Denote.nodes` read with
`strict := false` (every hoisted expression announced). `nodes_strict`: where no class / script-handler expression stands
below a conditional attribute, that reading and the strict one agree.
-/
namespace TemplVerif.Proofs.Gen
open TemplVerif TemplVerif.Ast TemplVerif.Sem

theorem script_open_eq : lt ++ Html.escape scriptOpen.tail = scriptOpen := by decide

theorem genNode_script_eq (as : Attrs) (parts : List ScriptPart) (next : Bool) :
    Gen.genNode (.script as parts) next =
      Gen.openTag false scriptOpen.tail as ++ Gen.genScriptParts parts ++ Gen.lits scriptClose := by
  cases as with
  | nil => simp only [Gen.genNode, Gen.openTag, script_open_eq]
  | cons a as => simp [Gen.genNode, Gen.openTag, script_open_eq]

theorem caseTexts_genCases : (cs : Cases) → (next : Bool) → Gen.caseTexts (Gen.genCases cs next) = Denote.caseTexts cs
  | .nil, next => by simp [Gen.genCases, Gen.caseTexts, Denote.caseTexts]
  | .cons c body rest, next => by simp [Gen.genCases, Gen.caseTexts, Denote.caseTexts, caseTexts_genCases rest next]

mutual
theorem execs_genNode : (n : Node) → (next : Bool) → (env : Env) → (st : St) →
    Gen.execs (Gen.genNode n next) env st = Denote.node false n next env st
  | n, next, env, st => by
    cases n with
    | doctype v => exact execs_lits _ env st
    | element name as children t ia ic =>
      rw [Gen.genNode, execs_append, execs_append, execs_openTag, execs_trailing, Denote.node]
      congr 1
      split
      · rfl
      · rw [execs_append, execs_genNodes true true children, execs_lits]
    | htmlComment c =>
      rw [Gen.genNode, execs_append, execs_append, execs_lits, execs_lits, execs_lits, Denote.node]
      cases h : st.err <;> simp [h]
    | raw name as contents =>
      rw [Gen.genNode, execs_append, execs_append, execs_openTag, execs_lits, execs_lits, Denote.node]
      generalize Denote.openTag false false name as env st = st1
      cases h : st1.err <;> simp [h]
    | script as parts =>
      rw [genNode_script_eq, execs_append, execs_append, execs_openTag, execs_genScriptParts, execs_lits, Denote.node]
    | forE e body =>
      rw [Gen.genNode, execs_one, Gen.exec, Denote.node]
      simp only [execs_genNodes false true body next]
      rfl
    | templEl e body =>
      cases body with
      | nil => rfl
      | cons n ns =>
        simp only [Gen.genNode, Nodes.isNil, Bool.false_eq_true, if_false, execs_one, Gen.exec, Denote.node,
          execs_genNodes false true (.cons n ns) false]
        rfl
    | ifE e thn elifs els =>
      rw [Gen.genNode, execs_one, exec_ifB_cons, Denote.node]
      simp only [execs_genNodes false true thn, execs_genNodes false true els, execBranches_genElifs elifs]
      rfl
    | switchE e cases =>
      rw [Gen.genNode, execs_one, Gen.exec, Denote.node, caseTexts_genCases]
      simp only [execCase_genCases cases]
      rfl
    | strExpr e t =>
      rw [Gen.genNode, execs_append, execs_trailing, Denote.node]
      split <;> rfl
    | goCode e _ _ =>
      rw [Gen.genNode, Denote.node]
      cases isBlank e
      · rw [Bool.or_false]; rfl
      · rw [Bool.or_true]; rfl
    | ws v =>
      rw [Gen.genNode, Denote.node]
      cases v.isEmpty
      · rw [Bool.or_false]; exact execs_lits sp env st
      · rw [Bool.or_true]; rfl
    | text v t =>
      rw [Gen.genNode, execs_append, execs_trailing, execs_lits, Denote.node]
    | _ => rfl
theorem execs_genNodes : (all atStart : Bool) → (ns : Nodes) → (next : Bool) → (env : Env) → (st : St) →
    Gen.execs (Gen.genNodes all atStart ns next) env st = Denote.nodes false all atStart ns next env st
  | _, _, .nil, _, _, _ => rfl
  | all, atStart, .cons n rest, next, env, st => by
    rw [Gen.genNodes, Denote.nodes, apply_ite (Gen.execs · env st), execs_genNodes all atStart rest, execs_append,
      execs_genNode n, execs_genNodes all false rest]
    rfl
theorem execBranches_genElifs : (es : ElseIfs) → (next : Bool) → (env : Env) → (st : St) →
    Gen.execBranches (Gen.genElifs es next) env st = Denote.elseIfs false es next env st
  | .nil, _, _, _ => rfl
  | .cons e thn rest, next, env, st => by
    rw [Gen.genElifs, Gen.execBranches, Denote.elseIfs]
    simp only [execs_genNodes false true thn, execBranches_genElifs rest]
    rfl
theorem execCase_genCases : (cs : Cases) → (i : Nat) → (next : Bool) → (env : Env) → (st : St) →
    Gen.execCase (Gen.genCases cs next) i env st = Denote.case false cs i next env st
  | .nil, _, _, _, _ => rfl
  | .cons c body rest, 0, next, env, st => by
    rw [Gen.genCases, Gen.execCase, Denote.case, execs_genNodes false true body]
  | .cons c body rest, i + 1, next, env, st => by
    rw [Gen.genCases, Gen.execCase, Denote.case, execCase_genCases rest i]
end

mutual
theorem reachedClasses_noHoisted (s : Bool) (env : Env) : (as : Attrs) → Denote.noHoisted as = true →
    Denote.reachedClasses s env as = []
  | .nil, _ => rfl
  | .cons a as, h => by
    simp only [Denote.noHoisted, Bool.and_eq_true] at h
    simp [Denote.reachedClasses, reachedClassesOne_noHoisted s env a h.1, reachedClasses_noHoisted s env as h.2]
theorem reachedClassesOne_noHoisted (s : Bool) (env : Env) : (a : Attr) → Denote.noHoistedOne a = true →
    Denote.reachedClassesOne s env a = []
  | .boolConst _, _ | .const _ _ _, _ | .boolExpr _ _, _ | .spread _, _ => rfl
  | .expr name e, h => by
    simp only [Denote.noHoistedOne, Bool.and_eq_true, Bool.not_eq_true'] at h
    simp [Denote.reachedClassesOne, h.1]
  | .cond c thn els, h => by
    simp only [Denote.noHoistedOne, Bool.and_eq_true] at h
    simp only [Denote.reachedClassesOne, reachedClasses_noHoisted s env thn h.1, reachedClasses_noHoisted s env els h.2]
    cases s <;> simp
    split <;> rfl
end

mutual
theorem reachedScripts_noHoisted (s : Bool) (env : Env) : (as : Attrs) → Denote.noHoisted as = true →
    Denote.reachedScripts s env as = []
  | .nil, _ => rfl
  | .cons a as, h => by
    simp only [Denote.noHoisted, Bool.and_eq_true] at h
    simp [Denote.reachedScripts, reachedScriptsOne_noHoisted s env a h.1, reachedScripts_noHoisted s env as h.2]
theorem reachedScriptsOne_noHoisted (s : Bool) (env : Env) : (a : Attr) → Denote.noHoistedOne a = true →
    Denote.reachedScriptsOne s env a = []
  | .boolConst _, _ | .const _ _ _, _ | .boolExpr _ _, _ | .spread _, _ => rfl
  | .expr name e, h => by
    simp only [Denote.noHoistedOne, Bool.and_eq_true, Bool.not_eq_true'] at h
    simp [Denote.reachedScriptsOne, h.2]
  | .cond c thn els, h => by
    simp only [Denote.noHoistedOne, Bool.and_eq_true] at h
    simp only [Denote.reachedScriptsOne, reachedScripts_noHoisted s env thn h.1, reachedScripts_noHoisted s env els h.2]
    cases s <;> simp
    split <;> rfl
end

theorem reachedClasses_strict (env : Env) : (as : Attrs) → Denote.condHoistFree as = true →
    Denote.reachedClasses true env as = Denote.reachedClasses false env as
  | .nil, _ => rfl
  | .cons a as, h => by
    simp only [Denote.condHoistFree, Bool.and_eq_true] at h
    simp only [Denote.reachedClasses, reachedClasses_strict env as h.2]
    congr 1
    cases a with
    | cond c thn els =>
      have e := fun s => reachedClassesOne_noHoisted s env (.cond c thn els) h.1
      exact (e true).trans (e false).symm
    | _ => rfl

theorem reachedScripts_strict (env : Env) : (as : Attrs) → Denote.condHoistFree as = true →
    Denote.reachedScripts true env as = Denote.reachedScripts false env as
  | .nil, _ => rfl
  | .cons a as, h => by
    simp only [Denote.condHoistFree, Bool.and_eq_true] at h
    simp only [Denote.reachedScripts, reachedScripts_strict env as h.2]
    congr 1
    cases a with
    | cond c thn els =>
      have e := fun s => reachedScriptsOne_noHoisted s env (.cond c thn els) h.1
      exact (e true).trans (e false).symm
    | _ => rfl

theorem openTag_strict {css : Bool} {name : Bytes} {as : Attrs} {env : Env} {st : St}
    (h : Denote.condHoistFree as = true) :
    Denote.openTag true css name as env st = Denote.openTag false css name as env st := by
  simp only [Denote.openTag, reachedClasses_strict env as h, reachedScripts_strict env as h]

mutual
theorem node_strict : (n : Node) → (next : Bool) → (env : Env) → (st : St) → Denote.Node.hoistFree n = true →
    Denote.node true n next env st = Denote.node false n next env st
  | n, next, env, st, h => by
    cases n with
    | element name as children t ia ic =>
      simp only [Denote.Node.hoistFree, Bool.and_eq_true] at h
      simp only [Denote.node, openTag_strict h.1, nodes_strict true true children false env _ h.2]
    | raw _ as _ | script as _ =>
      rw [Denote.node, Denote.node, openTag_strict h]
    | forE e body =>
      simp only [Denote.node, fun env st => nodes_strict false true body next env st h]
    | templEl e body =>
      simp only [Denote.node, fun st => nodes_strict false true body false env st h]
    | ifE e thn elifs els =>
      simp only [Denote.Node.hoistFree, Bool.and_eq_true] at h
      simp only [Denote.node, fun st => nodes_strict false true thn next env st h.1.1,
        fun st => elseIfs_strict elifs next env st h.1.2, fun st => nodes_strict false true els next env st h.2]
    | switchE e cs =>
      simp only [Denote.node, fun i st => case_strict cs i next env st h]
    | _ => rfl
theorem nodes_strict : (all atStart : Bool) → (ns : Nodes) → (next : Bool) → (env : Env) → (st : St) →
    Denote.Nodes.hoistFree ns = true →
    Denote.nodes true all atStart ns next env st = Denote.nodes false all atStart ns next env st
  | _, _, .nil, _, _, _, _ => rfl
  | all, atStart, .cons n rest, next, env, st, h => by
    simp only [Denote.Nodes.hoistFree, Bool.and_eq_true] at h
    rw [Denote.nodes, Denote.nodes, nodes_strict all atStart rest next env st h.2]
    simp only [node_strict n _ env st h.1, nodes_strict all false rest next env _ h.2]
theorem elseIfs_strict : (es : ElseIfs) → (next : Bool) → (env : Env) → (st : St) →
    Denote.ElseIfs.hoistFree es = true →
    Denote.elseIfs true es next env st = Denote.elseIfs false es next env st
  | .nil, _, _, _, _ => rfl
  | .cons e thn rest, next, env, st, h => by
    simp only [Denote.ElseIfs.hoistFree, Bool.and_eq_true] at h
    simp only [Denote.elseIfs, fun st => nodes_strict false true thn next env st h.1,
      fun st => elseIfs_strict rest next env st h.2]
theorem case_strict : (cs : Cases) → (i : Nat) → (next : Bool) → (env : Env) → (st : St) →
    Denote.Cases.hoistFree cs = true →
    Denote.case true cs i next env st = Denote.case false cs i next env st
  | .nil, _, _, _, _, _ => rfl
  | .cons c body rest, 0, next, env, st, h => by
    simp only [Denote.Cases.hoistFree, Bool.and_eq_true] at h
    rw [Denote.case, Denote.case, nodes_strict false true body next env st h.1]
  | .cons c body rest, i + 1, next, env, st, h => by
    simp only [Denote.Cases.hoistFree, Bool.and_eq_true] at h
    rw [Denote.case, Denote.case, case_strict rest i next env st h.2]
end

end TemplVerif.Proofs.Gen
