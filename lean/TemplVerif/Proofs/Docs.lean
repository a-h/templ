import TemplVerif.Model.Docs
import TemplVerif.Proofs.Assoc
/-
C17, several documents: the store is, URI by URI, a product of one-document machines (`stepDoc`).
-/
namespace TemplVerif.Proofs.Docs
open TemplVerif TemplVerif.Doc TemplVerif.Docs

theorem lookup_eq (s : Store) (u : Bytes) : lookup s u = List.lookup u s :=
  Assoc.find?_fst_eq_lookup s u

theorem lookup_remove (s : Store) (u v : Bytes) : lookup (remove s u) v = if v = u then none else lookup s v := by
  rw [lookup_eq, lookup_eq]
  exact Assoc.lookup_filter_ne s u v

theorem lookup_put (s : Store) (u v : Bytes) (d : Doc) :
    lookup (put s u d) v = if v = u then some d else lookup s v := by
  rw [put, lookup_eq, Assoc.lookup_cons, ← lookup_eq, ← remove, lookup_remove]
  split <;> rfl

/-- what a message does to the document it is about -/
def stepDoc (o : Option Doc) : Msg → Option Doc
  | .didOpen _ t => some (ofText t)
  | .didChange _ cs => o.map (applyAll · cs)
  | .didClose _ => none

theorem lookup_step (s : Store) (m : Msg) (v : Bytes) :
    lookup (step s m) v = if v = m.uri then stepDoc (lookup s v) m else lookup s v := by
  cases m with
  | didOpen u t => exact lookup_put ..
  | didClose u => exact lookup_remove ..
  | didChange u cs =>
    simp only [step, Msg.uri]
    by_cases hv : v = u
    · subst hv
      cases h : lookup s v <;> simp [stepDoc, h, lookup_put]
    · cases lookup s u <;> simp [hv, lookup_put]

theorem run_filter (ms : List Msg) (s s' : Store) (v : Bytes) (h : lookup s v = lookup s' v) :
    lookup (run s ms) v = lookup (run s' (ms.filter fun m => m.uri == v)) v := by
  induction ms generalizing s s' with
  | nil => exact h
  | cons m ms ih =>
    rw [List.filter_cons]
    split
    · exact ih _ _ (by rw [lookup_step, lookup_step, h])
    · rename_i hm
      exact ih _ _ (by rw [lookup_step, if_neg (fun e => hm (by simp [e])), h])

end TemplVerif.Proofs.Docs
