import TemplVerif.Generated.Skeletons
import TemplVerif.Spec.HtmlTok
import TemplVerif.Model.Attrs
import TemplVerif.Proofs.Html
import TemplVerif.Model.Sinks
import TemplVerif.Proofs.Compose
/-
C01 — interpolated strings never change HTML structure (text and attribute contexts).
`Html.escape` models templ.EscapeString; `HtmlTok` is the tokenizer specification.
-/
namespace TemplVerif.Props.C01
open TemplVerif TemplVerif.Html TemplVerif.HtmlTok TemplVerif.Attrs

/-- The escaper's output contains no `<`, `>`, `"` or `'` — for every byte string (invalid UTF-8 included). -/
theorem C01_escape_noStructural (s : Bytes) : ∀ b ∈ escape s, structural b = false :=
  Proofs.Html.escape_noStructural s

/-- The browser's character-reference decoding gives the original string back, verbatim. -/
theorem C01_decode_escape (s : Bytes) : decodeRefs (escape s) = s := Proofs.Html.decode_escape s

/-- …and does so whatever static markup follows the hole. -/
theorem C01_decode_escape_append (s rest : Bytes) : decodeRefs (escape s ++ rest) = s ++ decodeRefs rest :=
  Proofs.Html.decode_escape_append s rest

/-- Text sink: wherever the tokenizer is in the data state, an escaped string is consumed entirely as
    character data and leaves the tokenizer in the data state: no tag can start or end inside it. -/
theorem C01_hole_data (σ : S) (hσ : σ.st = .data) (s : Bytes) :
    run σ (escape s) = { σ with text := σ.text ++ escape s } := Proofs.Html.hole_data σ hσ s

/-- Attribute sink: inside a double-quoted value an escaped string only extends the value. -/
theorem C01_hole_attr (σ : S) (hσ : σ.st = .attrDQ) (s : Bytes) :
    run σ (escape s) = { σ with av := σ.av ++ escape s } := Proofs.Html.hole_attrDQ σ hσ s

/-- A whole document `pre ++ escape s ++ post` whose static prefix ends in the data state tokenizes as the
    static markup does, with the string's bytes added to the current text run. -/
theorem C01_text_sink (pre s post : Bytes) (h : (run {} pre).st = .data) :
    run {} (pre ++ escape s ++ post) =
      run { run {} pre with text := (run {} pre).text ++ escape s } post := by
  rw [Proofs.Html.run_append, Proofs.Html.run_append, Proofs.Html.hole_data _ h]

/-- Spread attributes, string-valued forms: ` name="` ++ escape v ++ `"` adds exactly the attribute (name, v). -/
theorem C01_spread_value (σ : S) (hσ : σ.st = .beforeAttrName ∨ σ.st = .tagName ∨ σ.st = .afterAttrValueQ)
    (hna : σ.st = .tagName → σ.hasAttr = false)
    (name v : Bytes) (hn : Proofs.Html.niceName name = true) :
    run σ (valued name v) =
      { finishAttr σ with st := .afterAttrValueQ, attrs := (finishAttr σ).attrs ++ [(name, v)],
                          an := [], av := [], hasAttr := false } :=
  Proofs.Html.attr_valued_tokens σ
    (hσ.elim (fun h => .inr (.inl h)) fun h => h.elim .inl fun h => .inr (.inr (.inl h))) name v hn

/-- JSON script element: id, type and nonce arrive as the values of exactly those three attributes. -/
theorem C01_jsonscript_open (id type nonce : Bytes) :
    (run {} (jsonScriptOpen id type nonce)).out =
      [Token.startTag [115, 99, 114, 105, 112, 116]
        ((if id.isEmpty then [] else [([105, 100], id)]) ++
         (if type.isEmpty then [] else [([116, 121, 112, 101], type)]) ++
         (if nonce.isEmpty then [] else [([110, 111, 110, 99, 101], nonce)])) false] := by
  have h0 : run {} [60, 115, 99, 114, 105, 112, 116] = Proofs.Html.inScript false [] := rfl
  have h1 := fun q a => Proofs.Html.run_optAttr q a [105, 100] id (by decide) (pre := [32, 105, 100, 61, 34]) rfl
  have h2 := fun q a => Proofs.Html.run_optAttr q a [116, 121, 112, 101] type (by decide) (pre := [32, 116, 121, 112, 101, 61, 34]) rfl
  have h3 := fun q a =>
    Proofs.Html.run_optAttr q a [110, 111, 110, 99, 101] nonce (by decide) (pre := [32, 110, 111, 110, 99, 101, 61, 34]) rfl
  simp only [jsonScriptOpen]
  rw [Proofs.Html.run_append, Proofs.Html.run_append, Proofs.Html.run_append, Proofs.Html.run_append, h0,
    h1, h2, h3, Proofs.Html.run_script_close, List.nil_append]

/-- T1: every place where the generator emits code that writes a dynamic value to the output buffer
    (list regenerated from generator.go on every run) passes the value through templ.EscapeString, except the
    two script positions that belong to C03. A new or edited sink that does not escape breaks this theorem. -/
theorem C01_sinks_wired : Generated.sinks.all Sinks.sinkOK = true := by decide +kernel

/-- …and outside those two script functions every sink is HTML-escaped. -/
theorem C01_html_sinks_escaped :
    (Generated.sinks.filter fun s => s.fn != Sinks.fnScriptAttr && s.fn != Sinks.fnScriptContents).all
      Sinks.isHtmlEscaped = true := by decide +kernel

/-- The sink list is not empty (the extractor found the generator's write sites). -/
theorem C01_sinks_found : 4 ≤ (Generated.sinks.filter Sinks.isHtmlEscaped).length := by decide +kernel

/-- Non-vacuity: `<p title="` leaves the tokenizer in the double-quoted value state, `<p>` in data. -/
example : (run {} [60, 112, 32, 116, 105, 116, 108, 101, 61, 34]).st = .attrDQ := by decide
example : (run {} [60, 112, 62]).st = .data := by decide
example : tokenize ([60, 112, 62] ++ escape [60, 98, 62, 38, 34] ++ [60, 47, 112, 62]) =
    [.startTag [112] [] false, .text [60, 98, 62, 38, 34], .endTag [112]] := by decide

/-! ## Composition: whole templates

The theorems above are about one hole. `C01_compose` puts them together over the template semantics of C02
(`Denote`, which the generator model refines and the real generated code is compared with on every run): for EVERY
template body of the markup fragment and EVERY environment — every string value, every boolean, every iteration —
whose rendering does not fail, the tokenizer reads the rendered bytes as exactly the token stream the author wrote
(`Expect.tokens`: the template's tags and attributes in order; each interpolated string verbatim inside its text run
or as its attribute's whole value). -/
theorem C01_compose (body : Ast.Nodes) (env : Sem.Env) (hf : Expect.nodesOK body = true)
    (hok : (Denote.run body env).err = false) :
    tokenize (Denote.run body env).out = Expect.tokens body env :=
  Proofs.Compose.compose true body env hf hok

/-- The same for the reading that announces unreached class / script expressions (today's generator, C02). -/
theorem C01_compose_hoistAll (body : Ast.Nodes) (env : Sem.Env) (hf : Expect.nodesOK body = true)
    (hok : (Denote.runHoistAll body env).err = false) :
    tokenize (Denote.runHoistAll body env).out = Expect.tokens body env :=
  Proofs.Compose.compose false body env hf hok

/-- Static text that does not stop inside a character reference decodes the same whatever follows it: the
    hypothesis `textOK` of the fragment is what makes a following string appear verbatim. -/
theorem C01_static_text_closed (v w : Bytes) (h : Expect.openRef false v = false) :
    decodeRefs (v ++ w) = decodeRefs v ++ decodeRefs w := Proofs.Compose.decode_append_closed h

/-- Non-vacuity: `<p title={ s } hidden?={ c }>a&amp;b { s }<br></p>` is in the fragment, and with s = `<"&`
    the tokenizer reads the author's tags with the string verbatim twice. -/
def sample : Ast.Nodes :=
  .cons (.element [112] (.cons (.expr [116, 105, 116, 108, 101] [115]) (.cons (.boolExpr [104, 105, 100, 100, 101, 110] [99]) .nil))
    (.cons (.text [97, 38, 97, 109, 112, 59, 98] .horiz) (.cons (.strExpr [115] .none)
      (.cons (.element [98, 114] .nil .nil .none false false) .nil))) .none false false) .nil
def sampleEnv : Sem.Env :=
  [([115], { keys := [], val := .str [60, 34, 38] false }), ([99], { keys := [], val := .bool true })]
example : Expect.nodesOK sample = true := by decide
example : (Denote.run sample sampleEnv).err = false := by decide
example : Expect.tokens sample sampleEnv =
    [.startTag [112] [([116, 105, 116, 108, 101], [60, 34, 38]), ([104, 105, 100, 100, 101, 110], [])] false,
     .text [97, 38, 98, 32, 60, 34, 38], .startTag [98, 114] [] false, .endTag [112]] := by decide

/-- Why `textOK` is a hypothesis (known finding `text;static-ampersand-before-hole`): in `<p>&{ s }</p>` the static
    text stops inside a character reference, and the string `lt;` completes it — the tokenizer reads the text `<`,
    not `&lt;`. The tags are unchanged, but the string does not appear verbatim. -/
def ampBody : Ast.Nodes :=
  .cons (.element [112] .nil (.cons (.text [38] .none) (.cons (.strExpr [115] .none) .nil)) .none false false) .nil
def ampEnv : Sem.Env := [([115], { keys := [], val := .str [108, 116, 59] false })]
theorem C01_static_ampersand_counterexample :
    Expect.nodesOK ampBody = false ∧ (Denote.run ampBody ampEnv).err = false ∧
    tokenize (Denote.run ampBody ampEnv).out = [.startTag [112] [] false, .text [60], .endTag [112]] ∧
    Expect.tokens ampBody ampEnv = [.startTag [112] [] false, .text [38, 108, 116, 59], .endTag [112]] := by decide

-- BEGIN transcription pins (written by tools/mkpins.py)
/-- T1, transcription pins: the control structure and calls (extract/skeleton.go) of the functions whose models
    were written by hand are the ones the models were transcribed from:
      runtime.go EscapeString
      runtime.go RenderAttributes
    A change of what one of them calls or how it branches breaks this theorem; the check then searches for a
    failing input and reports either that or `no-failing-input-found`. -/
theorem C01_transcription_pinned :
    Generated.skel_runtime_EscapeString = 4683905811979264117 ∧
    Generated.skel_runtime_RenderAttributes = 16485106523478347716 := by decide
-- END transcription pins

end TemplVerif.Props.C01
