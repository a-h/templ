import TemplVerif.Generated.Skeletons
import TemplVerif.Model.SourceMap
import TemplVerif.Proofs.Pos
import TemplVerif.Proofs.Symbols
/-
C07 — the source map relates every Go expression byte to the same byte in generated code.
"Byte position" is read as rune-start position (the tables are keyed per rune; an offset inside a multi-byte
character is not a position an editor can send) plus the position just past the end of each expression line.
-/
namespace TemplVerif.Props.C07
open TemplVerif TemplVerif.Pos TemplVerif.SourceMap

/-- After `Add`, every position of the expression maps to the target position reached by advancing over the same
    bytes, consecutive positions to consecutive positions, and mapping back returns the original position.
    `hv` is idle: the proof needs no validity of the UTF-8 (`Proofs.Pos.add_eq`). -/
theorem C07_add (sm : SM) (value : Bytes) (sf tf : Pos) (hv : Proofs.Pos.validUtf8 value = true)
    (k : Nat) (hk : k ∈ positionsOf value) :
    targetOf (add sm value sf tf) (advance sf (value.take k)).line (advance sf (value.take k)).col
      = some (advance tf (value.take k)) ∧
    sourceOf (add sm value sf tf) (advance tf (value.take k)).line (advance tf (value.take k)).col
      = some (advance sf (value.take k)) := by
  rw [Proofs.Pos.add_eq sm value sf tf]
  exact ⟨Proofs.Pos.lookup_add sm.s2t value sf tf k hk,
    Proofs.Pos.sourceOf_of_lookup (Proofs.Pos.lookup_add sm.t2s value tf sf k hk)⟩

/-- The mapped positions hold the same byte: with the expression text present at the source range start and at the
    target range start (what RangeWriter.write returns), source byte = target byte at every offset. -/
theorem C07_same_byte (S T value : Bytes) (sf tf : Pos)
    (hs : List.isPrefixOf value (S.drop sf.index) = true) (ht : List.isPrefixOf value (T.drop tf.index) = true)
    (k : Nat) (hk : k < value.length) :
    S[(advance sf (value.take k)).index]? = T[(advance tf (value.take k)).index]? := by
  rw [Proofs.Pos.advance_index, Proofs.Pos.advance_index, List.length_take, Nat.min_eq_left (Nat.le_of_lt hk),
    Proofs.Pos.getElem?_of_isPrefixOf hs hk, Proofs.Pos.getElem?_of_isPrefixOf ht hk]

/-- A later expression whose source positions are different does not overwrite earlier mappings. `hv2` is idle, as
    `hv` in `C07_add`. -/
theorem C07_no_clobber (sm : SM) (v1 v2 : Bytes) (s1 t1 s2 t2 : Pos) (hv2 : Proofs.Pos.validUtf8 v2 = true)
    (line col : Nat) (hdis : (line, col) ∉ Proofs.Pos.srcKeys v2 s2) :
    targetOf (add (add sm v1 s1 t1) v2 s2 t2) line col = targetOf (add sm v1 s1 t1) line col :=
  Proofs.Pos.targetOf_add_of_not_mem _ v2 s2 t2 line col hdis

/-- Non-vacuity: a two-line expression with a multi-byte character, preceded by multi-byte text on its line. -/
example : exprMapped [195, 169, 123, 97, 195, 169, 10, 98, 125] ([0, 0, 0, 0, 0] ++ [97, 195, 169, 10, 98])
    (add {} [97, 195, 169, 10, 98] ⟨3, 0, 3⟩ ⟨5, 0, 5⟩) [97, 195, 169, 10, 98] ⟨3, 0, 3⟩ ⟨5, 0, 5⟩ = true := by decide

/-! ## Symbol ranges of top-level declarations -/

/-- Every symbol range recorded by `AddSymbolRange` is found again from the start of its source range - for ANY
    number of top-level nodes, also several starting on one line - provided no two start at the same (line, column),
    which distinct nodes of a file never do. -/
theorem C07_symbols_found (adds : List (Rng × Rng)) (h : (adds.map fun a => Proofs.Symbols.key a.1).Nodup) :
    ∀ a ∈ adds, symTarget (addSymbols adds) a.1.from_.line a.1.from_.col = some a.2 := fun a ha => by
  rw [symTarget, Proofs.Symbols.addSymbols_eq]
  exact Proofs.Symbols.symLookup_map _ h ha

/-- … and from the start of the generated declaration back to the source range. -/
theorem C07_symbols_back (adds : List (Rng × Rng)) (h : (adds.map fun a => Proofs.Symbols.key a.2).Nodup) :
    ∀ a ∈ adds, symSource (addSymbols adds) a.2.from_.line a.2.from_.col = some a.1 := fun a ha => by
  rw [symSource, Proofs.Symbols.addSymbols_eq]
  exact Proofs.Symbols.symLookup_map _ h ha

/-- Nothing is found that was not recorded. -/
theorem C07_symbols_sound (adds : List (Rng × Rng)) (line col : Nat) (r : Rng)
    (h : symTarget (addSymbols adds) line col = some r) :
    ∃ a ∈ adds, a.1.from_.line = line ∧ a.1.from_.col = col ∧ a.2 = r := by
  rw [symTarget, Proofs.Symbols.addSymbols_eq] at h
  obtain ⟨e, he, h3⟩ := Proofs.Symbols.symLookup_sound h
  obtain ⟨a, ha, rfl⟩ := List.mem_map.mp he
  exact ⟨a, ha, h3⟩

/-- Non-vacuity: two templates starting on one source line (columns 0 and 22) both keep their ranges. -/
example :
    let a : Rng × Rng := (⟨⟨168, 19, 0⟩, ⟨189, 19, 21⟩⟩, ⟨⟨2531, 75, 0⟩, ⟨3575, 103, 0⟩⟩)
    let b : Rng × Rng := (⟨⟨190, 19, 22⟩, ⟨211, 19, 43⟩⟩, ⟨⟨3575, 103, 0⟩, ⟨4619, 131, 0⟩⟩)
    symTarget (addSymbols [a, b]) 19 0 = some a.2 ∧ symTarget (addSymbols [a, b]) 19 22 = some b.2 ∧
    symSource (addSymbols [a, b]) 75 0 = some a.1 := by decide

-- BEGIN transcription pins (written by tools/mkpins.py)
/-- T1, transcription pins: the control structure and calls (extract/skeleton.go) of the functions whose models
    were written by hand are the ones the models were transcribed from:
      cmd/templ/lspcmd/proxy/server.go Server.DidChange
      cmd/templ/lspcmd/proxy/server.go Server.DidOpen
      cmd/templ/lspcmd/proxy/server.go Server.parseTemplate
      generator/rangewriter.go RangeWriter.CodeHash
      generator/rangewriter.go RangeWriter.Write
      generator/rangewriter.go RangeWriter.WriteIndent
      generator/rangewriter.go RangeWriter.WriteStringLiteral
      generator/rangewriter.go RangeWriter.closeLiteral
      generator/rangewriter.go RangeWriter.write
      generator/rangewriter.go RangeWriter.writeErrorHandler
      parser/v2/sourcemap.go SourceMap.Add
      parser/v2/sourcemap.go SourceMap.AddSymbolRange
      parser/v2/sourcemap.go SourceMap.SourcePositionFromTarget
      parser/v2/sourcemap.go SourceMap.SymbolSourceRangeFromTarget
      parser/v2/sourcemap.go SourceMap.SymbolTargetRangeFromSource
      parser/v2/sourcemap.go SourceMap.TargetPositionFromSource
    A change of what one of them calls or how it branches breaks this theorem; the check then searches for a
    failing input and reports either that or `no-failing-input-found`. -/
theorem C07_transcription_pinned :
    Generated.skel_lspserver_DidChange = 12365285492961413979 ∧
    Generated.skel_lspserver_DidOpen = 2912707743840414254 ∧
    Generated.skel_lspserver_parseTemplate = 5362504280397451201 ∧
    Generated.skel_rw_CodeHash = 792772746908027308 ∧
    Generated.skel_rw_Write = 17538734659151182601 ∧
    Generated.skel_rw_WriteIndent = 17214375874521016690 ∧
    Generated.skel_rw_WriteStringLiteral = 8784805393440092172 ∧
    Generated.skel_rw_closeLiteral = 14545311566512644173 ∧
    Generated.skel_rw_write = 8854243379502433650 ∧
    Generated.skel_rw_writeErrorHandler = 15326098415425532206 ∧
    Generated.skel_sm_Add = 1288391241873993416 ∧
    Generated.skel_sm_AddSymbolRange = 7781495704052865687 ∧
    Generated.skel_sm_SourcePositionFromTarget = 5866908265814706828 ∧
    Generated.skel_sm_SymbolSourceRangeFromTarget = 9449607515031355420 ∧
    Generated.skel_sm_SymbolTargetRangeFromSource = 9449607515031355420 ∧
    Generated.skel_sm_TargetPositionFromSource = 9449607515031355420 := by decide
-- END transcription pins

end TemplVerif.Props.C07
