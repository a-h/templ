import TemplVerif.Generated.Skeletons
import TemplVerif.Model.Url
import TemplVerif.Proofs.Url
/-
C04 — the URL sanitiser admits only relative references and allow-listed schemes.
`Url.sanitize` is the model of templ.URL (it folds over `Generated.urlSchemes`, regenerated from
url.go on every run); `Whatwg.scheme` is the browser-side specification.
-/
namespace TemplVerif.Props.C04
open TemplVerif

/-- The table in the code is the allow-list of the statement (T1 pin: an edited list breaks this). -/
theorem C04_schemes_pinned : Generated.urlSchemes = Whatwg.allowedSchemes := rfl

theorem C04_failedURL_pinned : Generated.failedURL = Whatwg.failedURL := rfl

/-- Input returned unchanged ⇒ relative reference or allowed scheme — for every byte string, whatever
    case, whitespace or control-character disguise. (The failure URL itself is the one fixed point with
    another scheme: it is "replaced" by itself.) -/
theorem C04_main (s : Bytes) (h : Url.sanitize s = s) :
    Whatwg.scheme s = none ∨ (∃ a ∈ Whatwg.allowedSchemes, Whatwg.scheme s = some a) ∨ s = Whatwg.failedURL := by
  unfold Url.sanitize at h
  split at h
  · rename_i hi
    exact .inl (Proofs.Url.scheme_none_of_no_colon s (Proofs.Url.indexOf_eq_none_iff.mp hi))
  · rename_i i hi
    obtain ⟨rest, hs, hni⟩ := Proofs.Url.indexOf_some hi
    generalize s.take i = pre at hs hni h
    simp only at h
    split at h
    · rename_i h47
      exact .inl (hs ▸ Proofs.Url.scheme_none_of_bad pre rest hni 47 (Proofs.Url.indexOf_isSome h47) (by decide))
    · split at h
      · rename_i _ hany
        obtain ⟨t, htm, hte⟩ := List.any_eq_true.mp hany
        obtain ⟨htl, htne⟩ := Proofs.Url.schemes_lower t htm
        rcases Proofs.Url.equalFoldAux_letters htl hte with ⟨b, hb, hb80⟩ | ⟨g1, g2⟩
        · exact .inl (hs ▸ Proofs.Url.scheme_none_of_bad pre rest hni b hb (Proofs.Url.isBad_of_nonascii b hb80))
        · refine .inr (.inl ⟨t, C04_schemes_pinned ▸ htm, ?_⟩)
          rw [hs, Proofs.Url.scheme_of_alpha pre rest (fun e => htne (by simpa [e] using g2.symm)) g1, g2]
      · exact .inr (.inr (by rw [← C04_failedURL_pinned]; exact h.symm))

/-- Everything else is replaced by the fixed failure URL. -/
theorem C04_else (s : Bytes) (h : Url.sanitize s ≠ s) : Url.sanitize s = Whatwg.failedURL := by
  unfold Url.sanitize at h ⊢
  split
  · rename_i hi; simp [hi] at h
  · rename_i i hi
    simp only [hi] at h
    simp only at h ⊢
    split
    · rename_i h1; simp [h1] at h
    · split
      · rename_i _ h2; simp [h2] at h
      · exact C04_failedURL_pinned

/-- The executable predicate the driver evaluates on the implementation's outputs holds of the model. -/
theorem C04_okPair (s : Bytes) : Whatwg.okPair s (Url.sanitize s) = true := by
  unfold Whatwg.okPair
  by_cases h : Url.sanitize s = s
  · have := C04_main s h
    simp only [h, beq_self_eq_true, if_true]
    rcases this with h1 | ⟨a, ha, h2⟩ | h3
    · simp [h1]
    · simp [h2, ha]
    · simp [h3]
  · have := C04_else s h
    rw [this] at h
    simp [this, h]

/-- Non-vacuity: "JaVaScRiPt:alert(1)" with an embedded TAB is a disguise the browser resolves as javascript:,
    and the sanitiser does not return it unchanged. -/
example : Whatwg.scheme [106, 97, 9, 118, 97, 115, 99, 114, 105, 112, 116, 58, 120]
            = some [106, 97, 118, 97, 115, 99, 114, 105, 112, 116]
        ∧ Url.sanitize [106, 97, 9, 118, 97, 115, 99, 114, 105, 112, 116, 58, 120] = Whatwg.failedURL := by
  decide +kernel

example : Url.sanitize [72, 84, 84, 80, 58, 47, 47, 120] = [72, 84, 84, 80, 58, 47, 47, 120] := by decide +kernel

-- BEGIN transcription pins (written by tools/mkpins.py)
/-- T1, transcription pins: the control structure and calls (extract/skeleton.go) of the functions whose models
    were written by hand are the ones the models were transcribed from:
      url.go URL
    A change of what one of them calls or how it branches breaks this theorem; the check then searches for a
    failing input and reports either that or `no-failing-input-found`. -/
theorem C04_transcription_pinned :
    Generated.skel_url_URL = 12873288404165402316 := by decide
-- END transcription pins

end TemplVerif.Props.C04
