import TemplVerif.Generated.Skeletons
import TemplVerif.Model.Sse
import TemplVerif.Generated.Sse
import TemplVerif.Proofs.Sse
/-
C19 — the live-reload broadcast is reliable and survives client churn.
The model's two wiring parameters are regenerated from sse/server.go on every run.
-/
namespace TemplVerif.Props.C19
open TemplVerif TemplVerif.Sse

/-- The wiring of the code as it is now. -/
def codeCfg : Cfg := ⟨Generated.sseClosesChannelOnExit, Generated.sseDeliverySelectsDone⟩

/-- T1: the handler does not close the event channel and the delivery goroutine can always take its done branch. -/
theorem C19_wiring_pinned : codeCfg = Proofs.Sse.safeCfg := rfl

/-- T1: a pending delivery ends in exactly one of two ways - the client takes the event, or the client is gone. The
    delivery goroutine's select has these two cases and nothing else (no default, no timer): the model's `deliver` /
    `drop` are the only transitions out of `pending`, so "nothing is dropped" (C19_delivery) speaks about the code. -/
theorem C19_delivery_never_gives_up :
    Generated.sseDeliverySelectCases = 2 ∧ Generated.sseDeliverySelectHasDefault = false := ⟨rfl, rfl⟩

/-- No schedule of subscriptions, broadcasts, deliveries, cancellations and exits panics (no send on a closed
    channel); the broadcaster is never blocked (`broadcast` is enabled in every state by construction). -/
theorem C19_safe (sched : List Action) : (run codeCfg {} sched).isSome = true :=
  Proofs.Sse.run_isSome (congrArg Cfg.closeOnExit C19_wiring_pinned) {} sched

/-- Nothing is dropped: a client that was registered when an event was broadcast and has not been cancelled has
    received it or its delivery is still pending (with a fair scheduler: will receive it). -/
theorem C19_delivery (sched : List Action) (s : State) (h : run codeCfg {} sched = some s)
    (c e : Nat) (hr : (c, e) ∈ s.registeredAt) :
    ∃ cl, findClient s c = some cl ∧ (cl.cancelled = true ∨ e ∈ cl.received ∨ (c, e) ∈ s.pending) :=
  (Proofs.Sse.inv_run Proofs.Sse.inv_init h).accounted c e hr

/-- No goroutine leak: the delivery goroutines of a departed client can always finish. -/
theorem C19_no_leak (sched : List Action) (s : State) (h : run codeCfg {} sched = some s)
    (c e : Nat) (hp : (c, e) ∈ s.pending) (cl : Client) (hc : findClient s c = some cl) (hx : cl.exited = true) :
    ∃ s', step codeCfg s (.drop c e) = .ok s' :=
  Proofs.Sse.can_drop (congrArg Cfg.selectDone C19_wiring_pinned) (Proofs.Sse.inv_run Proofs.Sse.inv_init h) hp hc hx

/-- The unrepaired wiring (close on exit, unconditional send) panics on this five-step schedule. -/
theorem C19_unrepaired_counterexample :
    run ⟨true, false⟩ {} [.subscribe 1, .broadcast, .cancel 1, .exit 1, .deliver 1 0] = none := by decide

/-- Non-vacuity: a schedule in which a live client receives two events while another leaves mid-broadcast. -/
example : (run Proofs.Sse.safeCfg {} [.subscribe 1, .subscribe 2, .broadcast, .cancel 2, .deliver 1 0, .exit 2, .drop 2 0,
    .broadcast, .deliver 1 1]).map (fun s => (s.clients.map (·.received), s.pending)) = some ([[0, 1], []], []) := by decide

-- BEGIN transcription pins (written by tools/mkpins.py)
/-- T1, transcription pins: the control structure and calls (extract/skeleton.go) of the functions whose models
    were written by hand are the ones the models were transcribed from:
      cmd/templ/generatecmd/sse/server.go Handler.Send
      cmd/templ/generatecmd/sse/server.go Handler.ServeHTTP
    A change of what one of them calls or how it branches breaks this theorem; the check then searches for a
    failing input and reports either that or `no-failing-input-found`. -/
theorem C19_transcription_pinned :
    Generated.skel_sse_Send = 7103011776469186124 ∧
    Generated.skel_sse_ServeHTTP = 13318822914245842495 := by decide
-- END transcription pins

end TemplVerif.Props.C19
