import TemplVerif.Generated.Skeletons
import TemplVerif.Model.Handler
import TemplVerif.Generated.HandlerFacts
/-
C11 — the buffered HTTP handler responds all-or-nothing.
-/
namespace TemplVerif.Props.C11
open TemplVerif TemplVerif.Handler

/-- The response the client gets when rendering fails: a function of the configuration ALONE. -/
def errorResponse (cfg : Cfg) : RW := errorPath cfg {}

/-- Success: the complete document with the configured status (200 when unset) and content type. -/
theorem C11_success (cfg : Cfg) (doc : Bytes) (hb : cfg.stream = false) :
    serve cfg ⟨doc, false⟩ =
      { contentType := cfg.contentType, status := some (if cfg.status != 0 then cfg.status else 200), body := doc } := by
  simp only [serve, hb, serveBuffered, RW.setContentType, RW.writeHeader, RW.write]
  by_cases h : cfg.status != 0 <;> simp [h]

/-- Failure after ANY amount of output (k chunks, for every k): exactly the error response — it does not depend on
    what the component had written, so no document byte and no success status can appear in it. -/
theorem C11_failure (cfg : Cfg) (partialDoc : Bytes) (hb : cfg.stream = false) :
    serve cfg ⟨partialDoc, true⟩ = errorResponse cfg := by
  simp [serve, hb, serveBuffered, errorResponse]

/-- All-or-nothing, in one statement. -/
theorem C11_main (cfg : Cfg) (r : Render) (hb : cfg.stream = false) :
    serve cfg r = (if r.failed then errorResponse cfg
      else { contentType := cfg.contentType, status := some (if cfg.status != 0 then cfg.status else 200), body := r.written }) := by
  cases r with
  | mk written failed =>
    cases failed
    · simpa using C11_success cfg written hb
    · simpa using C11_failure cfg written hb

/-- Default error response: 500, text/plain, the fixed message. -/
theorem C11_default_error (cfg : Cfg) (h : cfg.errorHandler = none) :
    errorResponse cfg = { contentType := textPlain, status := some 500, body := errorMessage ++ [10] } := by
  simp [errorResponse, errorPath, h, httpError, RW.setContentType, RW.writeHeader, RW.write]

/-- Contrast (documented behaviour): with streaming, a failure after output leaves the partial document and the
    success status in place. -/
theorem C11_stream_contrast :
    serve ⟨201, [120], none, true⟩ ⟨[60, 112, 62], true⟩ =
      { contentType := [120], status := some 201, body := [60, 112, 62] ++ errorMessage ++ [10] } := by decide

/-- T1: in ServeHTTPBuffered the ResponseWriter is not touched before Render returns, the error branch is taken
    for every non-nil error, and that branch only sets the content type and hands the writer to the error handler
    or http.Error. -/
theorem C11_wiring_pinned :
    Generated.handlerTouchesWriterBeforeRender = false ∧
    Generated.handlerErrCond = [101, 114, 114, 32, 33, 61, 32, 110, 105, 108] ∧
    Generated.handlerErrPathWriterUses =
      [-- w.Header().Set("Content-Type", ch.ContentType)
       [119, 46, 72, 101, 97, 100, 101, 114, 40, 41, 46, 83, 101, 116, 40, 34, 67, 111, 110, 116, 101, 110, 116, 45, 84, 121, 112, 101, 34, 44, 32, 99, 104, 46, 67, 111, 110, 116, 101, 110, 116, 84, 121, 112, 101, 41],
       -- ch.ErrorHandler(r, err).ServeHTTP(w, r)
       [99, 104, 46, 69, 114, 114, 111, 114, 72, 97, 110, 100, 108, 101, 114, 40, 114, 44, 32, 101, 114, 114, 41, 46, 83, 101, 114, 118, 101, 72, 84, 84, 80, 40, 119, 44, 32, 114, 41],
       -- http.Error(w, componentHandlerErrorMessage, http.StatusInternalServerError)
       [104, 116, 116, 112, 46, 69, 114, 114, 111, 114, 40, 119, 44, 32, 99, 111, 109, 112, 111, 110, 101, 110, 116, 72, 97, 110, 100, 108, 101, 114, 69, 114, 114, 111, 114, 77, 101, 115, 115, 97, 103, 101, 44, 32, 104, 116, 116, 112, 46, 83, 116, 97, 116, 117, 115, 73, 110, 116, 101, 114, 110, 97, 108, 83, 101, 114, 118, 101, 114, 69, 114, 114, 111, 114, 41]] ∧
    Generated.handlerErrorMessage = errorMessage := ⟨rfl, rfl, rfl, rfl⟩

-- BEGIN transcription pins (written by tools/mkpins.py)
/-- T1, transcription pins: the control structure and calls (extract/skeleton.go) of the functions whose models
    were written by hand are the ones the models were transcribed from:
      handler.go ComponentHandler.ServeHTTP
      handler.go ComponentHandler.ServeHTTPBuffered
    A change of what one of them calls or how it branches breaks this theorem; the check then searches for a
    failing input and reports either that or `no-failing-input-found`. -/
theorem C11_transcription_pinned :
    Generated.skel_handler_ServeHTTP = 1725087716964111337 ∧
    Generated.skel_handler_ServeHTTPBuffered = 6609026193402378884 := by decide
-- END transcription pins

end TemplVerif.Props.C11
