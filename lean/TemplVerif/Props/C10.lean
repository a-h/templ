import TemplVerif.Generated.Skeletons
import TemplVerif.Model.Buf
import TemplVerif.Proofs.Buf
import TemplVerif.Proofs.Prefix
/-
C10 — rendering is exact and fail-stop under writer, expression and context failures.
`Buf.render` models a generated Render over runtime.Buffer (bufio.Writer of fixed capacity) and the buffer pool.
-/
namespace TemplVerif.Props.C10
open TemplVerif TemplVerif.Buf

theorem C10_prefix (ops : List ROp) (pooled : BW) (u : Under) (hc : 0 < pooled.cap) :
    ∃ rest, u.accepted ++ docOf ops = (render false ops pooled u).1.u.accepted ++ rest :=
  Proofs.Buf.render_prefix ops pooled u hc

/-- Render returned nil ⇒ the writer received exactly the full document, once, in order. -/
theorem C10_nil_full (ops : List ROp) (pooled : BW) (u : Under) (hc : 0 < pooled.cap)
    (h : (render false ops pooled u).2 = .none) :
    (render false ops pooled u).1.u.accepted = u.accepted ++ docOf ops := by
  obtain ⟨_, _, hok, herr⟩ := Proofs.Buf.render_spec ops pooled u hc rfl
  cases he : (render false ops pooled u).1.err with
  | true => rcases herr he with hw | ⟨_, hn⟩ <;> simp_all
  | false =>
    obtain ⟨hacc, hdb⟩ := hok he
    rw [hacc, Proofs.Buf.docBefore_none ops (hdb.symm.trans h)]

/-- Writer failure at ANY byte offset before the end (short write or zero write) is reported. -/
theorem C10_fault_reported (ops : List ROp) (pooled : BW) (u : Under) (hc : 0 < pooled.cap) (k : Nat)
    (hl : u.limit = some k) (ha : u.accepted.length ≤ k) (hk : k < u.accepted.length + (docOf ops).length)
    (hf : failFree ops = true) :
    (render false ops pooled u).2 = .writer :=
  Proofs.Buf.render_fault_reported ops pooled u hc k hl ha hk hf

/-- Expression / nested component errors: returned as such, output stops exactly there. -/
theorem C10_step_error (ops : List ROp) (pooled : BW) (u : Under) (hc : 0 < pooled.cap) (hl : u.limit = none) :
    (render false ops pooled u).2 = (Proofs.Buf.docBefore ops).2 ∧
    (render false ops pooled u).1.u.accepted = u.accepted ++ (Proofs.Buf.docBefore ops).1 := by
  obtain ⟨hcore, _, hok, _⟩ := Proofs.Buf.render_spec ops pooled u hc rfl
  exact (hok ((hcore.noLimit hl).trans rfl)).symm

/-- A cancelled context: nothing is written, the context's error is returned. -/
theorem C10_ctx (ops : List ROp) (pooled : BW) (u : Under) :
    (render true ops pooled u).2 = .ctx ∧ (render true ops pooled u).1 = pooled := by
  simp [render]

/-- A failed render never alters a later render: the pooled buffer contributes only its capacity. -/
theorem C10_pool (ops : List ROp) (pooled : BW) (u : Under) :
    render false ops pooled u = render false ops { cap := pooled.cap } u :=
  Proofs.Buf.render_pool_independent ops pooled u

/-! `C10_prefix`, `C10_nil_full` and `C10_fault_reported` quantify over EVERY behaviour of the caller's writer the model has, also over writers that
    break the io.Writer contract (`silent`: from the limit on they take less than they were given and return no
    error). `runtime.Buffer` puts a checking writer in front of them (repair `0f5e0ab`); without it bufio's loop for a
    large write into an empty buffer does not move. -/

theorem C10_unchecked_silent_stuck (b : BW) (p : Bytes) (k : Nat) (hl : b.u.limit = some k) (hk : k ≤ b.u.accepted.length)
    (hz : b.u.zeroWrite = true) (hs : b.u.silent = true) (he : b.err = false) (hp : p ≠ []) :
    b.largeStepUnchecked p = (b, p) := by
  cases b
  simp_all [BW.largeStepUnchecked, Proofs.Buf.write_at_limit hl hk hp]

theorem C10_silent_zero_reported (b : BW) (p : Bytes) (k : Nat) (hl : b.u.limit = some k) (hk : k ≤ b.u.accepted.length)
    (hz : b.u.zeroWrite = true) (hs : b.u.silent = true) (he : b.err = false) (hb : b.buf = []) (hp : b.cap < p.length) :
    (b.write p).err = true ∧ (b.write p).u.accepted = b.u.accepted := by
  have hpl : 0 < p.length := Nat.zero_lt_of_lt hp
  have hwc : b.u.writeChecked p = (b.u, 0, true) := by
    simp [Under.writeChecked, Proofs.Buf.write_at_limit hl hk (List.length_pos_iff.mp hpl), hpl]
  have hav : b.available < p.length := by rw [BW.available, hb]; exact hp
  simp [BW.write, BW.writeAux, hav, he, hb, hwc]

/-- Non-vacuity: a silent zero-writer that has accepted its 2 bytes; capacity 4; a 7-byte document in one write is
    reported as the writer's failure with nothing more accepted, a silent SHORT writer (one that takes what fits) too. -/
example :
    (render false [.write [1, 2, 3, 4, 5, 6, 7]] { cap := 4 } { accepted := [8, 9], limit := some 2, zeroWrite := true, silent := true }).2 = .writer ∧
    (render false [.write [1, 2, 3, 4, 5, 6, 7]] { cap := 4 } { accepted := [8, 9], limit := some 2, zeroWrite := true, silent := true }).1.u.accepted = [8, 9] ∧
    (render false [.write [1, 2, 3], .write [4, 5, 6, 7]] { cap := 4 } { limit := some 5, silent := true }).2 = .writer ∧
    (render false [.write [1, 2, 3], .write [4, 5, 6, 7]] { cap := 4 } { limit := some 5, silent := true }).1.u.accepted = [1, 2, 3, 4, 5] := by decide

/-- Non-vacuity: capacity 4, a 7-byte document in three writes, writer failing at offset 5 (short write): the writer
    holds the 5-byte prefix and the error is the writer's; the same buffer then renders completely on a healthy writer. -/
example :
    let r1 := render false [.write [1, 2, 3], .write [4, 5], .write [6, 7]] { cap := 4 } { limit := some 5 }
    r1.2 = .writer ∧ r1.1.u.accepted = [1, 2, 3, 4, 5] ∧
    (render false [.write [1, 2, 3], .sub [.write [4, 5]], .write [6, 7]] r1.1 {}).1.u.accepted = [1, 2, 3, 4, 5, 6, 7] := by decide

/-! ## Whole templates

The theorems above are about the buffer a generated Render writes through. Over the template semantics of C02
(`Denote`, which the real generated code is compared with on every C02 run) the fail-stop clause holds for EVERY
template body and EVERY environment: a render in which an expression or a nested component fails has written a prefix
of the document the same template writes when nothing fails, and has evaluated a prefix of its expressions; and a
render that reports no error is that complete document. -/
theorem C10_template_prefix (body : Ast.Nodes) (env : Sem.Env) :
    (Denote.run body env).out <+: (Denote.run body (Proofs.Prefix.clearErr env)).out ∧
    (Denote.run body env).trace <+: (Denote.run body (Proofs.Prefix.clearErr env)).trace :=
  have h := (Proofs.Prefix.nodes_R true true true body false env (Proofs.PrefixBase.R.refl {})).le
  ⟨h.1, h.2.1⟩

theorem C10_template_nil_full (body : Ast.Nodes) (env : Sem.Env) (h : (Denote.run body env).err = false) :
    Denote.run body (Proofs.Prefix.clearErr env) = Denote.run body env := by
  rcases Proofs.Prefix.nodes_R true true true body false env (Proofs.PrefixBase.R.refl {}) with h' | ⟨he, _⟩
  · exact h'.symm
  · exact absurd (he.symm.trans h) (by decide)

/-- Once a render has failed, the rest of the template writes nothing, evaluates nothing and emits no script. -/
theorem C10_template_frozen (strict all atStart : Bool) (ns : Ast.Nodes) (next : Bool) (env : Sem.Env) (st : Sem.St) (h : st.err = true) :
    (Denote.nodes strict all atStart ns next env st).out = st.out ∧
    (Denote.nodes strict all atStart ns next env st).trace = st.trace ∧
    (Denote.nodes strict all atStart ns next env st).scripts = st.scripts := by
  rw [Proofs.PrefixBase.nodes_cont.1 h]
  exact ⟨rfl, rfl, rfl⟩

/-- Non-vacuity: `<p>{ s }<b>x</b></p>` with a failing `s` stops after `<p>`; without the failure it is the whole document. -/
example :
    let body : Ast.Nodes := .cons (.element [112] .nil (.cons (.strExpr [115] .none) (.cons (.element [98] .nil (.cons (.text [120] .none) .nil) .none false false) .nil)) .none false false) .nil
    let env : Sem.Env := [([115], { keys := [[115]], val := .str [118] true })]
    (Denote.run body env).out = [60, 112, 62] ∧ (Denote.run body env).err = true ∧
    (Denote.run body (Proofs.Prefix.clearErr env)).out = [60, 112, 62, 118, 60, 98, 62, 120, 60, 47, 98, 62, 60, 47, 112, 62] := by decide +kernel

-- BEGIN transcription pins (written by tools/mkpins.py)
/-- T1, transcription pins: the control structure and calls (extract/skeleton.go) of the functions whose models
    were written by hand are the ones the models were transcribed from:
      runtime/buffer.go Buffer.Flush
      runtime/buffer.go Buffer.Write
      runtime/buffer.go Buffer.WriteString
    A change of what one of them calls or how it branches breaks this theorem; the check then searches for a
    failing input and reports either that or `no-failing-input-found`. -/
theorem C10_transcription_pinned :
    Generated.skel_buffer_Flush = 10291836389689593901 ∧
    Generated.skel_buffer_Write = 10621659015139386241 ∧
    Generated.skel_buffer_WriteString = 9478870129110372894 := by decide
-- END transcription pins

end TemplVerif.Props.C10
