import TemplVerif.Generated.Skeletons
import TemplVerif.Model.Pool
import TemplVerif.Proofs.Pool
/-
C14 — concurrent renders are isolated.
Proved: schedule independence at the granularity of the modelled steps (a goroutine owns its buffer between get and
put; a pooled buffer contributes only its capacity: `Proofs.Buf.render_pool_independent`, which C10_pool also states). Data-race freedom under the Go memory model is a
property of the compiled program: it is checked with the race detector in the correspondence run, not proved.
-/
namespace TemplVerif.Props.C14
open TemplVerif TemplVerif.Buf TemplVerif.Pool

/-- For EVERY interleaving of any number of goroutines, every choice of which pooled buffer each one is handed,
    and every state earlier (possibly failed) renders left those buffers in: a goroutine that has finished got
    exactly what it gets when it renders alone with a fresh buffer — same bytes at its writer, same error. -/
theorem C14_isolated (cap : Nat) (pool : List BW) (hp : ∀ b ∈ pool, b.cap = cap)
    (threads : List Thread) (hfresh : ∀ th ∈ threads, th.holding = none ∧ th.result = none)
    (acts : List Act) (t : Nat) (th : Thread) (r : Under × RErr)
    (ht : (run { cap := cap, pool := pool, threads := threads } acts).threads[t]? = some th)
    (hr : th.result = some r) :
    r = alone cap th := by
  have hwf : WellFormed { cap := cap, pool := pool, threads := threads } := by
    refine ⟨hp, ?_, ?_⟩
    · intro th hth b hb; simp [(hfresh th hth).1] at hb
    · intro th hth r hr; simp [(hfresh th hth).2] at hr
  obtain ⟨⟨_, _, h3⟩, hcap⟩ := Proofs.Pool.run_wf acts hwf
  have hmem : th ∈ (run { cap := cap, pool := pool, threads := threads } acts).threads := List.mem_of_getElem? ht
  have := h3 th hmem r hr
  simpa [hcap] using this

/-- Non-vacuity: two goroutines, the first with a failing writer; the second is handed the buffer the first one
    left behind and still renders its full document. -/
example :
    let w := run { cap := 4, pool := [], threads := [{ ops := [.write [1, 2, 3, 4, 5, 6]], writer := { limit := some 2 } },
                                                     { ops := [.write [7, 8, 9]], writer := {} }] }
      [.get 0 0, .renderPut 0, .get 1 0, .renderPut 1]
    (w.threads.map (·.result.map (fun r => (r.1.accepted, r.2)))) = [some ([1, 2], .writer), some ([7, 8, 9], .none)] := by decide

-- BEGIN transcription pins (written by tools/mkpins.py)
/-- T1, transcription pins: the control structure and calls (extract/skeleton.go) of the functions whose models
    were written by hand are the ones the models were transcribed from:
      runtime/buffer.go Buffer.Reset
      runtime/bufferpool.go GetBuffer
      runtime/bufferpool.go ReleaseBuffer
    A change of what one of them calls or how it branches breaks this theorem; the check then searches for a
    failing input and reports either that or `no-failing-input-found`. -/
theorem C14_transcription_pinned :
    Generated.skel_buffer_Reset = 11902779909231066397 ∧
    Generated.skel_pool_GetBuffer = 9516455317887111451 ∧
    Generated.skel_pool_ReleaseBuffer = 6290261172033971419 := by decide
-- END transcription pins

end TemplVerif.Props.C14
