import TemplVerif.Generated.Skeletons
import TemplVerif.Model.Js
import TemplVerif.Spec.JsLex
import TemplVerif.Proofs.Js
/-
C03 — Go values placed into JavaScript arrive as data only.
`Js.replace` indexes the two tables regenerated from runtime/scriptelement.go on every run.
-/
namespace TemplVerif.Props.C03
open TemplVerif TemplVerif.Js TemplVerif.JsLex

/-- Runes that can end a JS literal, start an escape / interpolation, end a line, or matter to HTML. -/
def dangerous : List Nat := [39, 34, 96, 92, 36, 10, 13, 60, 62, 38, 0x2028, 0x2029]

/-- T1: every dangerous rune has a replacement in the tables as they are in the source now. -/
theorem C03_table_covers : dangerous.all (fun r => (replRune r).isSome) = true := by decide

/-- The check of `C03_table_entries_ok` for one rune. -/
def entryOK (r : Nat) : Bool :=
  match replRune r with
  | some rp => [Quote.single, .double, .backtick].all fun q => lexAux q 12 [] (rp ++ [q.byte]) == .ok [r] []
  | none => !dangerous.contains r

/-- `entryOK` holds of every rune: a replacement is an escape sequence the table check of the proofs accepted
    (`Proofs.Js.replCheck_all`, evaluated entry by entry), and such a sequence lexes as its rune. -/
theorem entryOK_all (r : Nat) : entryOK r = true := by
  unfold entryOK
  cases hr : replRune r with
  | some rp =>
    have h := Proofs.Js.replRune_some hr
    simp only [List.all_cons, List.all_nil, Bool.and_true, Bool.and_eq_true, beq_iff_eq]
    refine ⟨?_, ?_, ?_⟩ <;> rw [(Proofs.Js.lexesAs_esc h).2 11 [], Proofs.Js.lexAux_quote] <;> rfl
  | none =>
    have := List.all_eq_true.mp C03_table_covers r
    rw [hr] at this
    simpa using this

/-- T1: every replacement the tables can produce for an ASCII rune is an escape sequence that, in each of
    the three literal kinds, lexes back to exactly that rune; runes without replacement are not dangerous. -/
theorem C03_table_entries_ok : (List.range 128).all entryOK = true :=
  List.all_eq_true.mpr fun r _ => entryOK_all r

/-- `{{ v }}` inside '…', "…" or `…`: one literal, value = the original string, for every byte string. -/
theorem C03_inliteral (q : Quote) (s rest : Bytes) :
    lexString q (replace s ++ q.byte :: rest) = .ok (Utf8.runes s) rest := by
  simpa [lexString, replace, Utf8.runes] using
    Proofs.Js.lex_replace_aux q rest s.length s (Nat.le_refl _) _ [] (Nat.lt_succ_self _)

/-- …and it cannot end the script element or open an HTML comment. -/
theorem C03_inliteral_html (s : Bytes) : scriptDataSafe (replace s) = true := by
  simp [scriptDataSafe, replace, Proofs.Js.replaceAux_no_lt]

/-- Bare `{{ v }}` for a string: the JSON text is one JS string literal with the original value. -/
theorem C03_bare_string (s rest : Bytes) :
    lexString .double ((jsonString s).drop 1 ++ rest) = .ok (Utf8.runes s) rest := by
  simpa [lexString, jsonString, Utf8.runes] using
    Proofs.Js.lex_json_aux rest s.length s (Nat.le_refl _) _ [] (Nat.lt_succ_self _)

/-- JSON of any value contains none of `< > &`: it cannot end the script element, open a comment, or be
    changed by attribute decoding. (Number texts come from Go's encoder; assumed free of `< > &`.) -/
theorem C03_json_html_safe (v : JVal) (h : numbersSafe v = true) :
    (60 : UInt8) ∉ jsonEncode v ∧ (62 : UInt8) ∉ jsonEncode v ∧ (38 : UInt8) ∉ jsonEncode v :=
  Proofs.Js.jsonEncode_noHtml v h

/-- Any non-string value inside a literal: the literal's value is the JSON text. -/
theorem C03_inliteral_json (q : Quote) (v : JVal) (rest : Bytes) :
    lexString q (scriptContentJson v true ++ q.byte :: rest) = .ok (Utf8.runes (jsonEncode v)) rest := by
  simpa [scriptContentJson] using C03_inliteral q (jsonEncode v) rest

/-- on* attribute call: no double quote in the attribute text, and the browser's attribute decoding yields
    exactly the inline call `name(json, json, …)`. -/
theorem C03_attr (fn : Bytes) (ps : List Param) :
    (34 : UInt8) ∉ safeScript fn ps ∧ Html.decodeRefs (safeScript fn ps) = safeScriptInline fn ps := by
  unfold safeScript safeScriptInline
  constructor
  · simp only [List.mem_append, not_or]
    refine ⟨⟨⟨Proofs.Js.escape_no_quote _, by decide⟩, Proofs.Js.intercalate_no_quote _ fun x hx => ?_⟩, by decide⟩
    obtain ⟨p, _, rfl⟩ := List.mem_map.mp hx
    exact Proofs.Js.escape_no_quote _
  · simp only [List.append_assoc]
    rw [Proofs.Html.decode_escape_append]
    simp only [List.cons_append, List.nil_append]
    rw [Proofs.Html.decodeRefs_cons_ne 40 (by decide),
      show (ps.map fun p => Html.escape (paramText p)) = (ps.map paramText).map Html.escape by simp [List.map_map],
      Proofs.Js.decode_intercalate, Proofs.Html.decodeRefs_cons_ne 41 (by decide)]
    simp [Html.decodeRefs]

/-- Function names: anything the recogniser rejects is replaced by the fixed name; accepted names are made of
    identifier characters and dots only. -/
theorem C03_fname (fn : Bytes) (ps : List Param) :
    (validFunctionName fn = false → List.isPrefixOf (invalidFunctionName ++ [40]) (safeScriptInline fn ps) = true) ∧
    (validFunctionName fn = true → ∀ b ∈ fn, isCont b = true ∨ b = 46) := by
  refine ⟨fun h => by simp [safeScriptInline, h, List.append_assoc], fun h => ?_⟩
  unfold validFunctionName at h
  cases hr : fnRun 0 fn with
  | none => simp [hr] at h
  | some st => exact Proofs.Js.fnRun_bytes fn 0 st hr

/-- Non-vacuity: the template-literal break-out that the unrepaired table let through. -/
example : lexString .backtick (replace [36, 123, 97, 125] ++ [96]) = .ok [36, 123, 97, 125] [] := by decide
example : validFunctionName [97, 46, 98] = false ∧ validFunctionName [97, 98, 46, 99, 100] = true := by decide

-- BEGIN transcription pins (written by tools/mkpins.py)
/-- T1, transcription pins: the control structure and calls (extract/skeleton.go) of the functions whose models
    were written by hand are the ones the models were transcribed from:
      scripttemplate.go jsonEncodeParam
      runtime/scriptelement.go scriptContent
    A change of what one of them calls or how it branches breaks this theorem; the check then searches for a
    failing input and reports either that or `no-failing-input-found`. -/
theorem C03_transcription_pinned :
    Generated.skel_script_jsonEncodeParam = 16854701993303472932 ∧
    Generated.skel_scriptel_scriptContent = 5859485942866768238 := by decide
-- END transcription pins

end TemplVerif.Props.C03
