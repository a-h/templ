import TemplVerif.Generated.Skeletons
import TemplVerif.Model.Proxy
import TemplVerif.Generated.Proxy
/-
C20 — the live-reload proxy alters HTML responses only by appending the reload script.
-/
namespace TemplVerif.Props.C20
open TemplVerif TemplVerif.Proxy

/-- T1: the Content-Encoding switch of modifyResponse (as it is in the source now) decodes exactly gzip and br,
    treats "" as identity, and its default arm returns before the body is read. -/
theorem C20_switch_pinned :
    Generated.proxyEncodingArms = [gzipLit, brLit, []] ∧ Generated.proxyDefaultArmReturns = true := ⟨rfl, rfl⟩

/-- The content encodings the proxy understands. -/
def supported (e : Bytes) : Bool := e == gzipLit || e == brLit || e.isEmpty

/-- The decoder/encoder pair the proxy uses for a supported encoding. -/
def codecOf (env : Env) (e : Bytes) : (Bytes → Option Bytes) × (Bytes → Bytes) :=
  if e == gzipLit then (env.gzipDec, env.gzipEnc) else if e == brLit then (env.brDec, env.brEnc) else (some, id)

/-- `modify` is one three-way test (skip header, not HTML, unsupported encoding) followed by the codec pair. -/
theorem modify_eq (env : Env) (r : Resp) :
    modify env r =
      if r.skipModify = trueLit ∨ isHtml r.contentType = false ∨ supported r.contentEncoding = false then .resp r
      else match (codecOf env r.contentEncoding).1 r.body with
        | none => .error
        | some doc =>
          let out := (codecOf env r.contentEncoding).2 ((env.insert (parseNonce r.csp) doc).getD doc)
          .resp { r with body := out, contentLength := some out.length } := by
  unfold Proxy.modify supported codecOf
  by_cases h0 : r.skipModify = trueLit
  · rw [if_pos (beq_iff_eq.mpr h0), if_pos (.inl h0)]
  by_cases h1 : isHtml r.contentType
  · by_cases h2 : r.contentEncoding == gzipLit
    · simp [h0, h1, h2]; rfl
    by_cases h3 : r.contentEncoding == brLit
    · simp [h0, h1, h2, h3]; rfl
    by_cases h4 : r.contentEncoding.isEmpty <;> simp [h0, h1, h2, h3, h4] <;> rfl
  · simp [h0, h1]

/-- Pass-through: a response marked to be skipped, a non-HTML response, or a response in an encoding the
    proxy does not understand is returned exactly as it came (body bytes, Content-Length, every modelled header). -/
theorem C20_passthrough (env : Env) (r : Resp)
    (h : r.skipModify = trueLit ∨ isHtml r.contentType = false ∨ supported r.contentEncoding = false) :
    modify env r = .resp r := by
  rw [modify_eq, if_pos h]

/-- HTMX requests: the round tripper marks the response, hence it passes through. -/
theorem C20_htmx (env : Env) (r : Resp) (up : Bytes) (h : r.skipModify = afterRoundTrip trueLit up) :
    modify env r = .resp r := by
  apply C20_passthrough
  left
  simpa [afterRoundTrip] using h

/-- HTML in identity / gzip / br: what the browser decodes is the rewritten document (the original when the
    rewrite fails), Content-Length equals the bytes sent, and the encoding header, content type and CSP are
    untouched — provided only that the codec round-trips (`dec (enc x) = some x`). -/
theorem C20_html (env : Env) (r : Resp) (doc : Bytes)
    (hs : r.skipModify ≠ trueLit) (ht : isHtml r.contentType = true)
    (he : supported r.contentEncoding = true)
    (hd : (codecOf env r.contentEncoding).1 r.body = some doc)
    (law : ∀ x, (codecOf env r.contentEncoding).1 ((codecOf env r.contentEncoding).2 x) = some x) :
    ∃ r', modify env r = .resp r' ∧
      (codecOf env r.contentEncoding).1 r'.body = some ((env.insert (parseNonce r.csp) doc).getD doc) ∧
      r'.contentLength = some r'.body.length ∧
      r'.contentEncoding = r.contentEncoding ∧ r'.contentType = r.contentType ∧ r'.csp = r.csp ∧
      r'.skipModify = r.skipModify := by
  rw [modify_eq, if_neg (by simp [hs, ht, he]), hd]
  exact ⟨_, rfl, law _, rfl, rfl, rfl, rfl, rfl⟩

/-- `parseNonce` examples from the property's quantifier (no nonce, nonce among other directives, several nonces). -/
example : parseNonce [100, 101, 102, 97, 117, 108, 116, 45, 115, 114, 99, 32, 39, 115, 101, 108, 102, 39, 59, 32, 115, 99, 114, 105, 112, 116, 45, 115, 114, 99, 32, 39, 115, 101, 108, 102, 39, 32, 39, 110, 111, 110, 99, 101, 45, 97, 98, 99, 49, 50, 51, 39, 32, 104, 116, 116, 112, 115, 58, 47, 47, 120, 59, 32, 115, 116, 121, 108, 101, 45, 115, 114, 99, 32, 39, 110, 111, 110, 99, 101, 45, 122, 122, 122, 39]
    = [97, 98, 99, 49, 50, 51] := by decide +kernel
example : parseNonce [100, 101, 102, 97, 117, 108, 116, 45, 115, 114, 99, 32, 39, 115, 101, 108, 102, 39] = [] := by decide
example : parseNonce [115, 99, 114, 105, 112, 116, 45, 115, 114, 99, 32, 39, 110, 111, 110, 99, 101, 45, 97, 39, 32, 39, 110, 111, 110, 99, 101, 45, 98, 39, 59, 32, 115, 99, 114, 105, 112, 116, 45, 115, 114, 99, 32, 39, 110, 111, 110, 99, 101, 45, 99, 39] = [97] := by decide

-- BEGIN transcription pins (written by tools/mkpins.py)
/-- T1, transcription pins: the control structure and calls (extract/skeleton.go) of the functions whose models
    were written by hand are the ones the models were transcribed from:
      cmd/templ/generatecmd/proxy/proxy.go insertScriptTagIntoBody
      cmd/templ/generatecmd/proxy/proxy.go Handler.modifyResponse
      cmd/templ/generatecmd/proxy/proxy.go parseNonce
    A change of what one of them calls or how it branches breaks this theorem; the check then searches for a
    failing input and reports either that or `no-failing-input-found`. -/
theorem C20_transcription_pinned :
    Generated.skel_proxy_insertScript = 8075675648413137107 ∧
    Generated.skel_proxy_modifyResponse = 17326589039522162342 ∧
    Generated.skel_proxy_parseNonce = 10634703123769029838 := by decide
-- END transcription pins

end TemplVerif.Props.C20
