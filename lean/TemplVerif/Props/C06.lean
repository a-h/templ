import TemplVerif.Generated.Skeletons
import TemplVerif.Model.Pos
import TemplVerif.Proofs.Pos
/-
C06 — the parser is total and every recorded position is faithful to the source.
What Lean proves: the position arithmetic (`PositionAt`), clamping, and the progress argument the parser's loops rely
on. The hypotheses of the progress argument and the absence of panics in ~3000 lines of parser combinators on top of
go/parser are MONITORED on explored inputs (correspondence run), not proved.
-/
namespace TemplVerif.Props.C06
open TemplVerif TemplVerif.Pos

theorem C06_positionAt (src : Bytes) (i : Nat) (h : i ≤ src.length) :
    positionAt src i = ⟨i, lineOf src i, i - lineStart src i⟩ := Proofs.Pos.positionAt_spec src i h

theorem C06_clamp (start stop len : Nat) :
    (clamp start stop len).1 ≤ (clamp start stop len).2 ∧ (clamp start stop len).2 ≤ len :=
  ⟨Nat.min_le_right _ _, Nat.min_le_right _ _⟩

/-- If every loop iteration stops or strictly advances an index bounded by the input length, the loop ends within
    length + 1 iterations: the parser cannot hang as long as "matched ⇒ advanced" holds for every node parser. -/
theorem C06_progress (step : Nat → Option Nat) (len : Nat)
    (hadv : ∀ i j, step i = some j → i < j ∧ j ≤ len) (i : Nat) (hi : i ≤ len) :
    Proofs.Pos.iter step (len - i + 1) i = none :=
  Proofs.Pos.iter_eq_none step (len - ·) (fun i j h => Nat.sub_lt_sub_left (Nat.lt_of_lt_of_le (hadv i j h).1 (hadv i j h).2) (hadv i j h).1) _ i (Nat.lt_succ_self _)

/-- Positions obtained by walking over text that is present stay consistent with `PositionAt` (line, column and
    index agree) — for every source and every expression text. -/
theorem C06_walk_consistent (S : Bytes) (p : Pos) (v : Bytes) (hp : positionAt S p.index = p)
    (hv : List.isPrefixOf v (S.drop p.index) = true) :
    positionAt S (p.index + v.length) = advance p v := by
  cases v with
  | nil => simpa [advance] using hp
  | cons b r =>
    have hle : p.index + (b :: r).length ≤ S.length := by
      have := (List.isPrefixOf_iff_prefix.mp hv).length_le
      rw [List.length_drop] at this
      simp only [List.length_cons] at this ⊢
      omega
    rw [Proofs.Pos.positionAt_eq_advance S _ hle, Proofs.Pos.take_add_of_isPrefixOf hv,
      Proofs.Pos.advance_append, ← Proofs.Pos.positionAt_eq_advance S _ (by omega), hp]

/-- Non-vacuity: a two-line source with a multi-byte character before the position. -/
example : positionAt [195, 169, 10, 97, 98] 4 = ⟨4, 1, 1⟩ ∧ rangeFaithful [195, 169, 10, 97, 98] [97, 98] ⟨3, 1, 0⟩ ⟨5, 1, 2⟩ = true := by decide

-- BEGIN transcription pins (written by tools/mkpins.py)
/-- T1, transcription pins: the control structure and calls (extract/skeleton.go) of the functions whose models
    were written by hand are the ones the models were transcribed from:
      parser/v2/goexpression/parse.go Case
      parser/v2/goexpression/parse.go Expression
      parser/v2/goexpression/parse.go For
      parser/v2/goexpression/parse.go Func
      parser/v2/goexpression/parse.go If
      parser/v2/goexpression/parse.go SliceArgs
      parser/v2/goexpression/parse.go Switch
      parser/v2/goexpression/parse.go TemplExpression
      parser/v2/goexpression/parse.go extract
      parser/v2/goexpression/parse.go inspectFirstNode
      parser/v2/goexpression/parse.go latestEnd
    A change of what one of them calls or how it branches breaks this theorem; the check then searches for a
    failing input and reports either that or `no-failing-input-found`. -/
theorem C06_transcription_pinned :
    Generated.skel_goexpr_Case = 2955674906157066679 ∧
    Generated.skel_goexpr_Expression = 449158004508312845 ∧
    Generated.skel_goexpr_For = 8530175418073697186 ∧
    Generated.skel_goexpr_Func = 4044167872632773897 ∧
    Generated.skel_goexpr_If = 9641853314815885700 ∧
    Generated.skel_goexpr_SliceArgs = 3087669176266588865 ∧
    Generated.skel_goexpr_Switch = 14403750837434080194 ∧
    Generated.skel_goexpr_TemplExpression = 10106973490070043467 ∧
    Generated.skel_goexpr_extract = 12086399404637510207 ∧
    Generated.skel_goexpr_inspectFirstNode = 7620468491175133498 ∧
    Generated.skel_goexpr_latestEnd = 14364505304721028528 := by decide
-- END transcription pins

end TemplVerif.Props.C06
