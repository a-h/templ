import TemplVerif.Generated.Skeletons
import TemplVerif.Model.Gen
import TemplVerif.Model.Denote
import TemplVerif.Proofs.Gen
/-
C02 — generated code renders exactly what the template denotes.

`Gen.run` is the model of the generated code running (tied to the real generator + Go compiler behaviourally: every
correspondence run compiles real generated code and compares bytes, error and evaluation trace with it);
`Denote.run` is the specification. Proved for EVERY template body and environment:
  * C02_refines_hoistAll — the generated code is exactly the direct reading of the tree, except that class /
    script-handler expressions below conditional attributes are announced (evaluated, their <style>/<script> emitted)
    whether or not they are reached;
  * C02_refines_partial — hence for every template without such an attribute it renders exactly what the template denotes;
  * C02_counterexample — and with one it does not (the genuine defect on record; the suite's
    generator/test-element-attributes/expected.html pins the behaviour, so it is a known finding, not a fix);
  * the whitespace clauses: C02_space_not_invented, C02_space_kept, C02_successor_skips_whitespace.
Not proved (observed in every run): that the generated Go compiles; Lean has no Go type checker.
-/
namespace TemplVerif.Props.C02
open TemplVerif TemplVerif.Ast TemplVerif.Sem

theorem C02_refines_hoistAll (body : Nodes) (env : Env) :
    Gen.run body env = Denote.runHoistAll body env :=
  Proofs.Gen.execs_genNodes true true body false env {}

theorem C02_refines_partial (body : Nodes) (env : Env) (h : Denote.Nodes.hoistFree body = true) :
    Gen.run body env = Denote.run body env := by
  rw [C02_refines_hoistAll]
  exact (Proofs.Gen.nodes_strict true true body false env {} h).symm

/-- `<div if B("c") { class={ CL("k") } }>x</div>` with the condition false: the generated code evaluates CL("k")
    (mark `k` in its trace); the template does not reach it. -/
theorem C02_counterexample :
    let body : Nodes := .cons (.element [100, 105, 118] (.cons (.cond [99] (.cons (.expr [99, 108, 97, 115, 115] [107]) .nil) .nil) .nil)
                                (.cons (.text [120] .none) .nil) .none false false) .nil
    let env : Env := [([99], { keys := [[99]], val := .bool false }), ([107], { keys := [[107]], val := .classes [122] })]
    Denote.Nodes.hoistFree body = false ∧
    (Gen.run body env).trace = [[107], [99]] ∧ (Denote.run body env).trace = [[99]] ∧
    (Gen.run body env).out = (Denote.run body env).out := by
  decide

theorem C02_space_not_invented (strict : Bool) (a : Node) (env : Env) (st : St)
    (hk : (∃ v t, a = .text v t) ∨ (∃ e t, a = .strExpr e t) ∨ (∃ n as cs t ia ic, a = .element n as cs t ia ic))
    (ht : Node.trail a = .none) :
    Denote.node strict a true env st = Denote.node strict a false env st := by
  rcases hk with ⟨v, t, rfl⟩ | ⟨e, t, rfl⟩ | ⟨n, as, cs, t, ia, ic, rfl⟩ <;>
    simp only [Node.trail] at ht <;> subst ht <;> simp [Denote.node, Denote.space, Node.trail]

theorem C02_space_kept (strict : Bool) (a : Node) (env : Env) (st : St)
    (hk : (∃ v t, a = .text v t) ∨ (∃ e t, a = .strExpr e t) ∨ (∃ n as cs t ia ic, a = .element n as cs t ia ic))
    (hi : Node.inline a = true) (ht : Node.trail a ≠ .none)
    (hok : (Denote.node strict a false env st).err = false) :
    Denote.node strict a true env st = (Denote.node strict a false env st).write [32] := by
  -- each of the three kinds ends in `Denote.space a next`, which is where `next` is looked at
  have key : ∀ x : St, (Denote.space a false x).err = false →
      Denote.space a true x = (Denote.space a false x).write [32] := by
    intro x hx
    cases h : x.err with
    | true => simp [Denote.space, h] at hx
    | false => simp [Denote.space, h, hi, ht, sp]
  rcases hk with ⟨v, t, rfl⟩ | ⟨e, t, rfl⟩ | ⟨n, as, cs, t, ia, ic, rfl⟩ <;>
    simp only [Denote.node] at hok ⊢ <;> exact key _ hok

theorem C02_successor_skips_whitespace (strict : Bool) (a b : Node) (rest : Nodes) (next : Bool) (env : Env) (st : St)
    (ha : a.isWs = false) (hb : b.isWs = false) :
    Denote.nodes strict true false (.cons a (.cons b rest)) next env st =
      Denote.nodes strict true false (.cons b rest) next env (Denote.node strict a (Node.inline b) env st) ∧
    ∀ w, Denote.nodes strict true false (.cons a (.cons (.ws w) (.cons b rest))) next env st =
      Denote.nodes strict true false (.cons b rest) next env (Denote.node strict a (Node.inline b) env st) := by
  constructor
  · simp [Denote.nodes, ha, hb, Nodes.firstNonWs]
  · intro w
    have hw : (Node.ws w).isWs = true := rfl
    simp [Denote.nodes, ha, hb, hw, Nodes.firstNonWs]

/-- Non-vacuity: `<p>{ S } <b>x</b> y</p>` followed by an if — text, expression, inline element, control flow; the model of
    the generated code and the denotation write the same 28 bytes, evaluating S then C. -/
example :
    let body : Nodes := .cons (.element [112] .nil
        (.cons (.strExpr [83] .horiz) (.cons (.element [98] .nil (.cons (.text [120] .none) .nil) .horiz false false)
          (.cons (.text [121] .none) .nil))) .vert false false)
        (.cons (.ifE [67] (.cons (.text [122] .vert) .nil) .nil .nil) .nil)
    let env : Env := [([83], { keys := [[83]], val := .str [60] false }), ([67], { keys := [[67]], val := .bool true })]
    (Gen.run body env).out = [60, 112, 62, 38, 108, 116, 59, 32, 60, 98, 62, 120, 60, 47, 98, 62, 32, 121, 60, 47, 112, 62, 122] ∧
    (Gen.run body env).trace = [[83], [67]] ∧ Gen.run body env = Denote.run body env := by
  decide +kernel

/-- T1: what the current source says where the model depends on it — the value-writer chain of
    writeExpressionAttribute, the cases of isInlineOrText, the hoisted attribute name and the script-attribute prefixes
    (the element tables voidElements / blockElements are used by the model directly from the extraction). -/
theorem C02_pinned :
    Generated.exprAttrChain =
      [[40, 115, 116, 114, 105, 110, 103, 115, 46, 69, 113, 117, 97, 108, 70, 111, 108, 100, 40, 101, 108, 101, 109, 101, 110, 116, 78, 97, 109, 101, 44, 32, 34, 97, 34, 41, 32, 38, 38, 32, 115, 116, 114, 105, 110, 103, 115, 46, 69, 113, 117, 97, 108, 70, 111, 108, 100, 40, 97, 116, 116, 114, 46, 78, 97, 109, 101, 44, 32, 34, 104, 114, 101, 102, 34, 41, 41, 32, 124, 124, 32, 40, 115, 116, 114, 105, 110, 103, 115, 46, 69, 113, 117, 97, 108, 70, 111, 108, 100, 40, 101, 108, 101, 109, 101, 110, 116, 78, 97, 109, 101, 44, 32, 34, 102, 111, 114, 109, 34, 41, 32, 38, 38, 32, 115, 116, 114, 105, 110, 103, 115, 46, 69, 113, 117, 97, 108, 70, 111, 108, 100, 40, 97, 116, 116, 114, 46, 78, 97, 109, 101, 44, 32, 34, 97, 99, 116, 105, 111, 110, 34, 41, 41, 32, 61, 62, 32, 119, 114, 105, 116, 101, 69, 120, 112, 114, 101, 115, 115, 105, 111, 110, 65, 116, 116, 114, 105, 98, 117, 116, 101, 86, 97, 108, 117, 101, 85, 82, 76],
       [105, 115, 83, 99, 114, 105, 112, 116, 65, 116, 116, 114, 105, 98, 117, 116, 101, 40, 97, 116, 116, 114, 46, 78, 97, 109, 101, 41, 32, 61, 62, 32, 119, 114, 105, 116, 101, 69, 120, 112, 114, 101, 115, 115, 105, 111, 110, 65, 116, 116, 114, 105, 98, 117, 116, 101, 86, 97, 108, 117, 101, 83, 99, 114, 105, 112, 116],
       [97, 116, 116, 114, 46, 78, 97, 109, 101, 32, 61, 61, 32, 34, 115, 116, 121, 108, 101, 34, 32, 61, 62, 32, 119, 114, 105, 116, 101, 69, 120, 112, 114, 101, 115, 115, 105, 111, 110, 65, 116, 116, 114, 105, 98, 117, 116, 101, 86, 97, 108, 117, 101, 83, 116, 121, 108, 101],
       [101, 108, 115, 101, 32, 61, 62, 32, 119, 114, 105, 116, 101, 69, 120, 112, 114, 101, 115, 115, 105, 111, 110, 65, 116, 116, 114, 105, 98, 117, 116, 101, 86, 97, 108, 117, 101, 68, 101, 102, 97, 117, 108, 116]] ∧
    Generated.inlineOrTextCases =
      [[112, 97, 114, 115, 101, 114, 46, 73, 102, 69, 120, 112, 114, 101, 115, 115, 105, 111, 110, 32, 61, 62, 32, 116, 114, 117, 101],
       [112, 97, 114, 115, 101, 114, 46, 83, 119, 105, 116, 99, 104, 69, 120, 112, 114, 101, 115, 115, 105, 111, 110, 32, 61, 62, 32, 116, 114, 117, 101],
       [112, 97, 114, 115, 101, 114, 46, 70, 111, 114, 69, 120, 112, 114, 101, 115, 115, 105, 111, 110, 32, 61, 62, 32, 116, 114, 117, 101],
       [112, 97, 114, 115, 101, 114, 46, 69, 108, 101, 109, 101, 110, 116, 32, 61, 62, 32, 33, 110, 46, 73, 115, 66, 108, 111, 99, 107, 69, 108, 101, 109, 101, 110, 116, 40, 41],
       [112, 97, 114, 115, 101, 114, 46, 84, 101, 120, 116, 32, 61, 62, 32, 116, 114, 117, 101],
       [112, 97, 114, 115, 101, 114, 46, 83, 116, 114, 105, 110, 103, 69, 120, 112, 114, 101, 115, 115, 105, 111, 110, 32, 61, 62, 32, 116, 114, 117, 101]] ∧
    Generated.cssAttrName = [99, 108, 97, 115, 115] ∧
    Generated.scriptAttrPrefixes = [[111, 110], [104, 120, 45, 111, 110, 58]] :=
  ⟨rfl, rfl, rfl, rfl⟩

-- BEGIN transcription pins (written by tools/mkpins.py)
/-- T1, transcription pins: the control structure and calls (extract/skeleton.go) of the functions whose models
    were written by hand are the ones the models were transcribed from:
      generator/generator.go generator.writeAttributeCSS
      generator/generator.go generator.writeAttributesCSS
      generator/generator.go generator.writeBlankAssignmentForRuntimeImport
      generator/generator.go generator.writeBlockTemplElementExpression
      generator/generator.go generator.writeBoolConstantAttribute
      generator/generator.go generator.writeBoolExpressionAttribute
      generator/generator.go generator.writeCSS
      generator/generator.go generator.writeCallTemplateExpression
      generator/generator.go generator.writeChildrenExpression
      generator/generator.go generator.writeCodeGeneratedComment
      generator/generator.go generator.writeComment
      generator/generator.go generator.writeConditionalAttribute
      generator/generator.go generator.writeConstantAttribute
      generator/generator.go generator.writeDocType
      generator/generator.go generator.writeElement
      generator/generator.go generator.writeElementAttributes
      generator/generator.go generator.writeElementCSS
      generator/generator.go generator.writeElementScript
      generator/generator.go generator.writeErrorHandler
      generator/generator.go generator.writeExpressionAttribute
      generator/generator.go generator.writeExpressionAttributeValueDefault
      generator/generator.go generator.writeExpressionAttributeValueScript
      generator/generator.go generator.writeExpressionAttributeValueStyle
      generator/generator.go generator.writeExpressionAttributeValueURL
      generator/generator.go generator.writeExpressionErrorHandler
      generator/generator.go generator.writeForExpression
      generator/generator.go generator.writeGeneratedDateComment
      generator/generator.go generator.writeGoCode
      generator/generator.go generator.writeGoExpression
      generator/generator.go generator.writeHeader
      generator/generator.go generator.writeIfExpression
      generator/generator.go generator.writeImports
      generator/generator.go generator.writeNode
      generator/generator.go generator.writeNodes
      generator/generator.go generator.writePackage
      generator/generator.go generator.writeRawElement
      generator/generator.go generator.writeScript
      generator/generator.go generator.writeScriptContents
      generator/generator.go generator.writeScriptElement
      generator/generator.go generator.writeSelfClosingTemplElementExpression
      generator/generator.go generator.writeSpreadAttributes
      generator/generator.go generator.writeStringExpression
      generator/generator.go generator.writeSwitchExpression
      generator/generator.go generator.writeTemplBuffer
      generator/generator.go generator.writeTemplElementExpression
      generator/generator.go generator.writeTemplate
      generator/generator.go generator.writeTemplateNodes
      generator/generator.go generator.writeText
      generator/generator.go generator.writeVersionComment
      generator/generator.go generator.writeWhitespace
      generator/generator.go generator.writeWhitespaceTrailer
    A change of what one of them calls or how it branches breaks this theorem; the check then searches for a
    failing input and reports either that or `no-failing-input-found`. -/
theorem C02_transcription_pinned :
    Generated.skel_gen_writeAttributeCSS = 10858082510981339322 ∧
    Generated.skel_gen_writeAttributesCSS = 17128375998541749753 ∧
    Generated.skel_gen_writeBlankAssignmentForRuntimeImport = 8364394957163665611 ∧
    Generated.skel_gen_writeBlockTemplElementExpression = 11326746197513157036 ∧
    Generated.skel_gen_writeBoolConstantAttribute = 17279520674632884351 ∧
    Generated.skel_gen_writeBoolExpressionAttribute = 365912194915787068 ∧
    Generated.skel_gen_writeCSS = 5516758861864974531 ∧
    Generated.skel_gen_writeCallTemplateExpression = 9594183451043399340 ∧
    Generated.skel_gen_writeChildrenExpression = 351564412331989652 ∧
    Generated.skel_gen_writeCodeGeneratedComment = 8357919265093665860 ∧
    Generated.skel_gen_writeComment = 7133478974922829661 ∧
    Generated.skel_gen_writeConditionalAttribute = 6633228310471802764 ∧
    Generated.skel_gen_writeConstantAttribute = 8569620026748607292 ∧
    Generated.skel_gen_writeDocType = 10529868399773554376 ∧
    Generated.skel_gen_writeElement = 9537736456058383951 ∧
    Generated.skel_gen_writeElementAttributes = 15876934111739183099 ∧
    Generated.skel_gen_writeElementCSS = 10254342041197554424 ∧
    Generated.skel_gen_writeElementScript = 763426321262258063 ∧
    Generated.skel_gen_writeErrorHandler = 3220571718826977137 ∧
    Generated.skel_gen_writeExpressionAttribute = 3511430070960549522 ∧
    Generated.skel_gen_writeExpressionAttributeValueDefault = 10919355300089812823 ∧
    Generated.skel_gen_writeExpressionAttributeValueScript = 9066903911087314849 ∧
    Generated.skel_gen_writeExpressionAttributeValueStyle = 2600459999555158370 ∧
    Generated.skel_gen_writeExpressionAttributeValueURL = 9066903911087314849 ∧
    Generated.skel_gen_writeExpressionErrorHandler = 3990333745618447584 ∧
    Generated.skel_gen_writeForExpression = 967216417881405918 ∧
    Generated.skel_gen_writeGeneratedDateComment = 4402119418485325256 ∧
    Generated.skel_gen_writeGoCode = 9082316895623791248 ∧
    Generated.skel_gen_writeGoExpression = 10832970467191123079 ∧
    Generated.skel_gen_writeHeader = 17757859098078167144 ∧
    Generated.skel_gen_writeIfExpression = 8886623500353960725 ∧
    Generated.skel_gen_writeImports = 16261108241018286897 ∧
    Generated.skel_gen_writeNode = 8909952721136510863 ∧
    Generated.skel_gen_writeNodes = 15929390937765484789 ∧
    Generated.skel_gen_writePackage = 9032675636176359823 ∧
    Generated.skel_gen_writeRawElement = 1821929257101758292 ∧
    Generated.skel_gen_writeScript = 955588685841281957 ∧
    Generated.skel_gen_writeScriptContents = 3921325542740619965 ∧
    Generated.skel_gen_writeScriptElement = 15709453175462206363 ∧
    Generated.skel_gen_writeSelfClosingTemplElementExpression = 9594183451043399340 ∧
    Generated.skel_gen_writeSpreadAttributes = 9594183451043399340 ∧
    Generated.skel_gen_writeStringExpression = 18179626585064402480 ∧
    Generated.skel_gen_writeSwitchExpression = 7652783365260669400 ∧
    Generated.skel_gen_writeTemplBuffer = 12067656867349261645 ∧
    Generated.skel_gen_writeTemplElementExpression = 561756907016755889 ∧
    Generated.skel_gen_writeTemplate = 18191793614618438843 ∧
    Generated.skel_gen_writeTemplateNodes = 6975213564886194975 ∧
    Generated.skel_gen_writeText = 7900193906795065909 ∧
    Generated.skel_gen_writeVersionComment = 4402119418485325256 ∧
    Generated.skel_gen_writeWhitespace = 9093825524154211736 ∧
    Generated.skel_gen_writeWhitespaceTrailer = 16278270400185365577 := by decide
-- END transcription pins

end TemplVerif.Props.C02
