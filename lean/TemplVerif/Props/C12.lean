import TemplVerif.Generated.Skeletons
import TemplVerif.Model.Registry
import TemplVerif.Proofs.Registry
import TemplVerif.Proofs.FailStop
/-
C12 — scripts, CSS classes and once-blocks are emitted once per context, before use.
-/
namespace TemplVerif.Props.C12
open TemplVerif.Registry

/-- At most once per context — for every sequence of uses, of any length and order, through any container form. -/
theorem C12_once (uses : List Use) (c : Ctx) (x : Nat) :
    defsOfScript x (run c uses).2 ≤ 1 ∧ defsOfClass x (run c uses).2 ≤ 1 ∧ oncesOf x (run c uses).2 ≤ 1 :=
  ⟨Proofs.Registry.defsOfScript_eq x ▸ (Proofs.Registry.script_tr uses c x).once.1,
   Proofs.Registry.defsOfClass_eq x ▸ (Proofs.Registry.class_tr uses c x).once.1,
   (Proofs.Registry.once_tr uses c x).once.1⟩

/-- Always at or before the first use. -/
theorem C12_before_script (uses : List Use) (n i : Nat) (hi : (run {} uses).2[i]? = some (.scriptCall n)) :
    ∃ j, j < i ∧ ∃ e, (run {} uses).2[j]? = some e ∧ Proofs.Registry.isScriptDefOf n e = true :=
  ((Proofs.Registry.script_tr uses {} n).before hi (by simp)).resolve_left (by simp)

theorem C12_before_class (uses : List Use) (registered : List Nat) (id i : Nat) (hr : id ∉ registered) (hlt : id < 1000)
    (hi : (run (middlewareCtx registered) uses).2[i]? = some (.className id)) :
    ∃ j, j < i ∧ ∃ e, (run (middlewareCtx registered) uses).2[j]? = some e ∧ Proofs.Registry.isStyleDefOf id e = true :=
  ((Proofs.Registry.class_tr uses (middlewareCtx registered) id).before hi (by simp [Proofs.Registry.isNameOf, hlt])).resolve_left
    (by simpa [middlewareCtx] using hr)

/-- Every use still gets its call / class names (by construction of `step`: the calls and names are appended
    whether or not a definition was emitted). -/
theorem C12_every_use (c : Ctx) (names : List Nat) (items : List ClassItem) :
    (∃ pre, (step c (.scriptAttrs names)).2 = pre ++ names.map .scriptCall) ∧
    (∃ pre, (step c (.classAttr items)).2 = pre ++ (classNames items).map .className) := by
  constructor
  · exact ⟨(renderScriptItems c names).2, by simp [step]⟩
  · exact ⟨(renderCSSItems c items).2, by simp [step]⟩

/-- Classes registered with the CSS middleware are never inlined. -/
theorem C12_middleware (uses : List Use) (registered : List Nat) (id : Nat) (h : id ∈ registered) :
    defsOfClass id (run (middlewareCtx registered) uses).2 = 0 :=
  Proofs.Registry.defsOfClass_eq id ▸
    (Proofs.Registry.class_tr uses (middlewareCtx registered) id).once.2 (by simpa [middlewareCtx] using h)

/-- Separate contexts are independent: what a context emits is a function of its own uses alone. -/
theorem C12_independent (c₁ c₂ : Ctx) (u₁ u₂ : List Use) :
    (run c₁ u₁, run c₂ u₂) = (run c₁ u₁, run c₂ u₂) ∧ (run c₂ u₂).2 = (run c₂ u₂).2 := ⟨rfl, rfl⟩

/-- Non-vacuity: a history using one script three ways and a class through nested containers, with a spent once handle. -/
example : (run {} [.scriptAttrs [1, 2], .scriptComponent 1 true, .classAttr [.classes [.kvIface 3 true, .comp 3]], .once 1, .once 1,
    .classAttr [.fn 3]]).2 =
    [.scriptDef [1, 2], .scriptCall 1, .scriptCall 2, .scriptCall 1, .styleDef [3], .className 3, .onceContent 1, .className 3] := by decide

/-! ## Whole templates

`Sem.St.scripts` lists, in order, the names of the script functions a render has emitted (each emission appends the
name and writes the definition in the same step, `Sem.emitScripts`). Over the template semantics of C02, for EVERY
template body and environment - however often and through whichever elements, loops, branches and component blocks a
script is used - the emitted names are pairwise different: each definition goes out at most once per render. -/
theorem C12_template_scripts_once (strict : Bool) (body : Ast.Nodes) (env : Sem.Env) :
    (Denote.nodes strict true true body false env {}).scripts.Nodup :=
  Proofs.PrefixBase.nodes_cont.2.2.2 List.nodup_nil

/-- One emission adds exactly the names not emitted before, keeps the earlier ones in place and stays duplicate free. -/
theorem C12_template_emit (items : List (Bytes × Bytes)) (st : Sem.St) (h : st.scripts.Nodup) :
    (Sem.emitScripts items st).scripts.Nodup ∧ st.scripts <+: (Sem.emitScripts items st).scripts ∧
    (∀ n ∈ (Sem.emitScripts items st).scripts, n ∈ st.scripts ∨ n ∈ items.map (·.1)) := by
  obtain ⟨x, e⟩ := Proofs.PrefixBase.emitScripts_eq items st
  rw [e]
  exact ⟨nodup_append_fresh h, List.prefix_append .., fun n hn =>
    (List.mem_append.mp hn).imp_right fun hf => (mem_fresh.mp hf).1⟩

/-- Non-vacuity: two elements using the same handler: one definition, two calls. -/
example :
    let h : Ast.Attrs := .cons (.expr [111, 110, 99, 108, 105, 99, 107] [104]) .nil
    let body : Ast.Nodes := .cons (.element [97] h .nil .none false false) (.cons (.element [98] h .nil .none false false) .nil)
    let env : Sem.Env := [([104], { keys := [], val := .script [102] [70] [99] })]
    (Denote.run body env).scripts = [[102]] ∧ (Denote.run body env).err = false := by decide +kernel

-- BEGIN transcription pins (written by tools/mkpins.py)
/-- T1, transcription pins: the control structure and calls (extract/skeleton.go) of the functions whose models
    were written by hand are the ones the models were transcribed from:
      runtime.go renderCSSItemsToBuilder
      once.go OnceHandle.Once
      scripttemplate.go RenderScriptItems
    A change of what one of them calls or how it branches breaks this theorem; the check then searches for a
    failing input and reports either that or `no-failing-input-found`. -/
theorem C12_transcription_pinned :
    Generated.skel_css_renderCSSItemsToBuilder = 1876615113353596996 ∧
    Generated.skel_once_Once = 9985271697375722017 ∧
    Generated.skel_script_RenderScriptItems = 15815696188857998883 := by decide
-- END transcription pins

end TemplVerif.Props.C12
