import TemplVerif.Generated.Skeletons
import TemplVerif.Model.Children
/-
C13 — a component receives exactly the child block passed at its call site.
`Children.exec` models the code (context value with a children slot; WithChildren derives a value; GetChildren's
component renders the block with an empty slot); `Children.denote` is the specification in which children are an
explicit parameter. Call trees range over the fixture combinators, which cover every generated call shape.
-/
namespace TemplVerif.Props.C13
open TemplVerif TemplVerif.Children

/-- For EVERY call tree (any nesting of calls with and without blocks, callees that use, ignore or repeat their
    slot, Once / Flush / Join / function components as callee or intermediate layer, siblings after a call that did
    not consume its block) the context-based code renders exactly what explicit parameter passing denotes:
    each callee sees its own call site's block and nothing else. -/
theorem C13_main (fuel : Nat) (t : Term) (kids : Option Closure) (o : List Nat) :
    exec fuel t { children := kids, onces := o } = denote fuel t kids o := by
  suffices h : (∀ t kids o, exec fuel t { children := kids, onces := o } = denote fuel t kids o) ∧
      (∀ k o, slot fuel k o = denoteSlot fuel k o) from h.1 t kids o
  induction fuel with
  | zero => exact ⟨fun t kids o => by simp [exec, denote], fun k o => by cases k <;> simp [slot, denoteSlot]⟩
  | succ n ih =>
    obtain ⟨ihE, ihS⟩ := ih
    constructor
    · intro t kids o
      cases t with
      | once h fixed => cases fixed <;> simp only [exec, denote, ihE, ihS]
      | _ => simp only [exec, denote, ihE, ihS]
    · intro k o
      rcases k with _ | _ | _ <;> simp only [slot, denoteSlot, ihE, ihS]

/-- Calling a component without a block gives it no children, whatever block the caller itself received. -/
theorem C13_noblock (fuel : Nat) (x : Term) (kids : Option Closure) (o : List Nat) :
    denote (fuel + 1) (.noBlock x) kids o = denote (fuel + 1) (.noBlock x) none o := by
  simp only [denote]

/-- A sibling rendered after a call with a block does not see that block, even when the callee ignored it. -/
theorem C13_sibling (fuel : Nat) (c : Term) (m : Nat) (inner b : Term) (o : List Nat) :
    (denote (fuel + 2) (.seq (.withBlock c m inner) b) none o).2.1 =
      (denote (fuel + 1) (.withBlock c m inner) none o).2.1 ++
      (denote (fuel + 1) b none (denote (fuel + 1) (.withBlock c m inner) none o).1).2.1 := by
  conv => lhs; rw [denote]

/-- A block is rendered with an empty slot: a block-less call inside it does not receive the block itself
    (before the repair `@templ.Flush() { @templ.Flush() }` recursed without bound). -/
example : (exec 8 (.withBlock .flush 1 .flush) {}).2.1 = lit "<wb>" ++ tag "m" 1 ++ lit "</wb>" := by
  simp [exec, slot]

-- BEGIN transcription pins (written by tools/mkpins.py)
/-- T1, transcription pins: the control structure and calls (extract/skeleton.go) of the functions whose models
    were written by hand are the ones the models were transcribed from:
      flush.go FlushComponent.Render
      generator/generator.go generator.writeBlockTemplElementExpression
      generator/generator.go generator.writeCallTemplateExpression
      generator/generator.go generator.writeChildrenExpression
      generator/generator.go generator.writeTemplElementExpression
      join.go Join
      runtime.go ClearChildren
      runtime.go GetChildren
      runtime.go WithChildren
    A change of what one of them calls or how it branches breaks this theorem; the check then searches for a
    failing input and reports either that or `no-failing-input-found`. -/
theorem C13_transcription_pinned :
    Generated.skel_flush_Render = 5949231320098095056 ∧
    Generated.skel_gen_writeBlockTemplElementExpression = 11326746197513157036 ∧
    Generated.skel_gen_writeCallTemplateExpression = 9594183451043399340 ∧
    Generated.skel_gen_writeChildrenExpression = 351564412331989652 ∧
    Generated.skel_gen_writeTemplElementExpression = 561756907016755889 ∧
    Generated.skel_join_Join = 2710727602932544168 ∧
    Generated.skel_rt_ClearChildren = 13265255789325131257 ∧
    Generated.skel_rt_GetChildren = 7574763116782928735 ∧
    Generated.skel_rt_WithChildren = 16854738734032380008 := by decide
-- END transcription pins

end TemplVerif.Props.C13
