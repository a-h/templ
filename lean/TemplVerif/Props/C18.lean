import TemplVerif.Generated.Skeletons
import TemplVerif.Model.Frame
import TemplVerif.Proofs.Frame
import TemplVerif.Proofs.Rpc
import TemplVerif.Proofs.Mux
import TemplVerif.Generated.Conn
/-
C18 — JSON-RPC framing is lossless and calls are matched to their responses.
-/
namespace TemplVerif.Props.C18
open TemplVerif TemplVerif.Frame

/-- The length header counts bytes of the body (multi-byte characters count once per byte). -/
theorem C18_length_counts_bytes (body : Bytes) :
    encode body = hdrContentLength ++ [58, 32] ++ decimal body.length ++ crlfcrlf ++ body := rfl

/-- One frame round-trips whatever follows it in the stream. -/
theorem C18_frame_roundtrip (body rest : Bytes) (h0 : 0 < body.length) (h1 : body.length < 2147483648) :
    readFrame (encode body ++ rest) = .ok (body, rest) := Proofs.Frame.readFrame_encode rest h0 h1

/-- Any message sequence is read back as the same sequence, for EVERY way of cutting the byte stream into chunks
    (the reader is a function of the concatenation; bufio's part of this is in the trusted base). -/
theorem C18_roundtrip (bodies : List Bytes) (h : ∀ b ∈ bodies, 0 < b.length ∧ b.length < 2147483648)
    (chunks : List Bytes) (hc : chunks.flatten = bodies.flatMap encode) :
    readAll chunks.flatten = (bodies, none) := by
  rw [hc]; exact Proofs.Frame.readAll_encode h

/-- Malformed or truncated input yields a result (an error or frames) — the reader is total; it cannot hang. -/
theorem C18_total (s : Bytes) : ∃ r, readAll s = r := ⟨_, rfl⟩

/-- Every completed call returned the response carrying its id, or its own cancellation — for every schedule of
    calls, responses (in any order, late, never, for unknown ids), cancellations and select choices. -/
theorem C18_match (sched : List Rpc.Action) (s : Rpc.State) (h : Rpc.run {} sched = some s) :
    ∀ t id res, (t, id, res) ∈ s.completed → res = .cancelled ∨ ∃ r, res = .response r ∧ r.id = id :=
  fun _ _ _ hm => (Proofs.Rpc.inv_run Proofs.Rpc.inv_init h).claim _ hm

/-- Ids are never reused, and finished calls leave no pending entry behind. -/
theorem C18_ids (sched : List Rpc.Action) (s : Rpc.State) (h : Rpc.run {} sched = some s) :
    (s.completed.map (fun c => c.2.1) ++ s.pending.map (·.id)).Nodup ∧ s.pending.length + s.completed.length = s.seq :=
  have hp := (Proofs.Rpc.inv_run Proofs.Rpc.inv_init h).ids
  ⟨hp.nodup_iff.2 List.nodup_range', by simpa [Nat.add_comm] using hp.length_eq⟩

/-- The read loop never blocks under ANY behaviour of the peer - duplicated responses, responses for finished or
    unknown calls, in any order: since the repair of the read loop a response nobody can take is dropped instead of
    blocking the loop. -/
theorem C18_no_block_any (sched : List Rpc.Action) : (Rpc.run {} sched).isSome = true := by
  generalize ({} : Rpc.State) = s
  induction sched generalizing s with
  | nil => rfl
  | cons a rest ih =>
    simp only [Rpc.run]
    split
    · exact ih _
    · exact ih _
    · exact absurd ‹_› Proofs.Rpc.step_not_blocked

/-- In particular when the peer answers each id at most once, which is what the read loop needed before that repair. -/
theorem C18_no_block (sched : List Rpc.Action) (hn : (sched.filterMap Proofs.Rpc.recvId).Nodup) :
    (Rpc.run {} sched).isSome = true := C18_no_block_any sched

/-- A peer that answers id 1 three times does not keep the second call from its response. -/
example : (Rpc.run {} [.call 1, .call 2, .recv ⟨1, 5⟩, .recv ⟨1, 5⟩, .recv ⟨1, 5⟩, .recv ⟨2, 6⟩, .finishRecv 1, .finishRecv 2]).map (·.completed)
    = some [(1, 1, .response ⟨1, 5⟩), (2, 2, .response ⟨2, 6⟩)] := by decide

/-- Non-vacuity: two frames, one with a multi-byte body; a malformed header; an out-of-order, cancel-racing schedule. -/
example : readAll (encode [123, 125] ++ encode [195, 169]) = ([[123, 125], [195, 169]], none) := by decide +kernel
example : (readAll ([67, 111, 110, 116, 101, 110, 116, 45, 76, 101, 110, 103, 116, 104, 58, 32, 48, 13, 10, 13, 10])).2
    = some .nonPositiveLength := by decide
example : (Rpc.run {} [.call 1, .call 2, .recv ⟨2, 7⟩, .cancel 1, .recv ⟨1, 8⟩, .finishCancel 1, .finishRecv 2]).map (·.completed)
    = some [(1, 1, .cancelled), (2, 2, .response ⟨2, 7⟩)] := by decide

/-! ## Concurrent senders never interleave frames

A frame is two writes to the transport (header, body). Every sender of a connection - `Call`, `Notify`, the replier
- goes through `conn.write`, which holds the write mutex around them (T1 below). The model (`Model/Mux.lean`)
interleaves any number of such senders at the granularity of single transport writes. -/

/-- Under EVERY schedule, once all senders have finished the stream is their frames one after the other in some
    order - a permutation: nothing missing, nothing twice, nothing cut. -/
theorem C18_frames_atomic (ws : List Mux.Writer) (hf : Proofs.Mux.Fresh ws) (sched : List Nat)
    (hd : Mux.allDone (Mux.run { writers := ws } sched) = true) :
    ∃ order : List Nat, order.Perm (List.range ws.length) ∧
      (Mux.run { writers := ws } sched).out = (order.filterMap fun i => ws[i]?.map Mux.frameOf).flatten := by
  obtain ⟨order, hi⟩ := Proofs.Mux.inv_run hf sched (Proofs.Mux.inv_init hf)
  have hdone : ∀ i, Proofs.Mux.pcAt (Mux.run { writers := ws } sched).writers i = some .done ↔ i < ws.length :=
    fun i => by
      rw [← congrArg List.length hi.same, List.length_map, Proofs.Mux.pcAt_eq_some]
      constructor
      · rintro ⟨w, hw, _⟩; exact (List.getElem?_eq_some_iff.1 hw).1
      · intro hlt
        exact ⟨_, List.getElem?_eq_getElem hlt, by simpa using List.all_eq_true.1 hd _ (List.getElem_mem hlt)⟩
  refine ⟨order, ?_, ?_⟩
  · rw [List.perm_ext_iff_of_nodup hi.nodup List.nodup_range]
    intro a
    rw [hi.mem a, List.mem_range, hdone]
  · -- nobody is between its two writes, so nothing is pending
    obtain ht | ⟨h, w, _, hw, hp, _⟩ := Proofs.Mux.pend_cases ws (Mux.run { writers := ws } sched)
    · rw [hi.out, ht, List.append_nil]
    · have := (hdone h).2 (List.getElem?_eq_some_iff.1 hw).1
      rw [hp] at this; cases this

/-- … and a reader gets every message back whole (with `C18_roundtrip`: however the bytes are chunked). -/
theorem C18_concurrent_roundtrip (bodies : List Bytes) (h : ∀ b ∈ bodies, 0 < b.length ∧ b.length < 2147483648) (sched : List Nat)
    (hd : Mux.allDone (Mux.run { writers := bodies.map fun b => { header := (encode b).take ((encode b).length - b.length), body := b } } sched) = true) :
    ∃ order : List Nat, order.Perm (List.range bodies.length) ∧
      readAll (Mux.run { writers := bodies.map fun b => { header := (encode b).take ((encode b).length - b.length), body := b } } sched).out
        = (order.filterMap fun i => bodies[i]?, none) := by
  obtain ⟨order, hp, ho⟩ := C18_frames_atomic _
    (fun w hw => by obtain ⟨b, _, rfl⟩ := List.mem_map.1 hw; exact ⟨rfl, rfl⟩) sched hd
  refine ⟨order, by simpa using hp, ?_⟩
  simp only [ho, List.getElem?_map, Option.map_map, Function.comp_def, Mux.frameOf, Proofs.Mux.encode_split]
  rw [← List.map_filterMap, ← List.flatMap_def, Proofs.Frame.readAll_encode]
  intro b hb
  obtain ⟨i, _, hi⟩ := List.mem_filterMap.1 hb
  exact h b (List.mem_of_getElem? hi)

/-- What the mutex is for: a sender that writes to the stream directly cuts into another sender's frame. -/
theorem C18_unlocked_counterexample :
    (Mux.run { writers := [{ header := [1], body := [2] }, { header := [3], body := [4], locked := false }] } [0, 0, 1, 1, 0, 1]).out
      = [1, 3, 2, 4] := by decide

/-- T1: in conn.go only `write` writes to the stream, it does so between Lock and Unlock of the write mutex, and
    Call, Notify and the replier send through it. -/
theorem C18_write_pinned :
    Generated.connDirectStreamWriters = [[119, 114, 105, 116, 101]] ∧
    Generated.connWriteBracketsStreamWrite = true ∧
    Generated.connSendersViaWrite = [[67, 97, 108, 108], [78, 111, 116, 105, 102, 121], [114, 101, 112, 108, 105, 101, 114]] := ⟨rfl, rfl, rfl⟩

/-- Non-vacuity: three senders, a schedule in which the second takes the mutex between the first one's writes being
    requested - the first finishes its frame before the second starts. -/
example : (Mux.run { writers := [{ header := [1], body := [2] }, { header := [3], body := [4] }, { header := [5], body := [6] }] }
    [0, 1, 0, 1, 0, 1, 2, 1, 1, 2, 2, 2]).out = [1, 2, 3, 4, 5, 6] := by decide

-- BEGIN transcription pins (written by tools/mkpins.py)
/-- T1, transcription pins: the control structure and calls (extract/skeleton.go) of the functions whose models
    were written by hand are the ones the models were transcribed from:
      lsp/jsonrpc2/conn.go conn.Call
      lsp/jsonrpc2/conn.go conn.Notify
      lsp/jsonrpc2/conn.go conn.replier
      lsp/jsonrpc2/conn.go conn.run
      lsp/jsonrpc2/conn.go conn.write
      lsp/jsonrpc2/stream.go stream.Read
      lsp/jsonrpc2/stream.go stream.Write
    A change of what one of them calls or how it branches breaks this theorem; the check then searches for a
    failing input and reports either that or `no-failing-input-found`. -/
theorem C18_transcription_pinned :
    Generated.skel_conn_Call = 13815292633185930845 ∧
    Generated.skel_conn_Notify = 5315113082747578148 ∧
    Generated.skel_conn_replier = 9091940107552503306 ∧
    Generated.skel_conn_run = 2093232708540561469 ∧
    Generated.skel_conn_write = 12939569471761619924 ∧
    Generated.skel_stream_Read = 3558343524170499463 ∧
    Generated.skel_stream_Write = 10908548354901442409 := by decide
-- END transcription pins

end TemplVerif.Props.C18
