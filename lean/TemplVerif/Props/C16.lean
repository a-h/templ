import TemplVerif.Generated.Skeletons
import TemplVerif.Model.Quote
import TemplVerif.Proofs.Quote
import TemplVerif.Generated.HasChanged
import TemplVerif.Generated.Watch
import TemplVerif.Model.Watch
import TemplVerif.Proofs.Watch
/-
C16 — watch-mode rendering equals a fresh build.
-/
namespace TemplVerif.Props.C16
open TemplVerif TemplVerif.Quote

/-- Every static literal survives the generator's escaping: Go reads back exactly the original bytes. -/
theorem C16_roundtrip (isPrint : Nat → Bool) (hlf : isPrint 10 = false) (s : Bytes) :
    unquote (quote isPrint s) = some s ∧ (10 : UInt8) ∉ quote isPrint s :=
  ⟨Proofs.Quote.unquote_quote isPrint hlf s, Proofs.Quote.quote_no_lf isPrint hlf s⟩

/-- Development mode: literal number `i+1` read from the text file is the literal the normally generated code
    carries at that index — for every list of literals (quotes, backslashes, newlines, non-ASCII, invalid bytes). -/
theorem C16_devmode (isPrint : Nat → Bool) (hlf : isPrint 10 = false) (lits : List Bytes) (i : Nat) (hi : i < lits.length) :
    devLiteral (textFile (lits.map (quote isPrint))) (i + 1) = some (lits.getD i []) := by
  rw [Proofs.Quote.devLiteral_quote isPrint hlf lits (by intro h; simp [h] at hi)]
  simp [hi]

/-- What `HasChanged` looks at, as a model: the options, the number of literals, the expression list and the digest
    of the generated code without literal contents. -/
structure Output where
  options : Bytes
  literals : List Bytes
  expressions : List Bytes
  codeWithoutLiterals : Bytes
deriving DecidableEq

def hasChanged (p u : Output) : Bool :=
  p.options != u.options || p.literals.length != u.literals.length || p.codeWithoutLiterals != u.codeWithoutLiterals ||
  p.expressions != u.expressions

/-- No recompilation needed ⇒ the already compiled program, reading the updated text file, IS the newly generated
    program: a compiled template is a function `run` of its code-without-literals and of the literals it reads at
    run time, so equal code-without-literals give equal renders for every input. (SHA-256 stands for equality of the
    code without literals: collision resistance is in the trusted base.) -/
theorem C16_norecompile (run : Bytes → List Bytes → Bytes) (p u : Output) (h : hasChanged p u = false) :
    run p.codeWithoutLiterals u.literals = run u.codeWithoutLiterals u.literals := by
  simp only [hasChanged, Bool.or_eq_false_iff, bne_eq_false_iff_eq] at h
  rw [h.1.2]

/-- T1: HasChanged compares the digest of the code without literals (besides options, literal count, expressions),
    and the digest is suspended only for literal contents and the generated-date comment. -/
theorem C16_haschanged_pinned :
    Generated.hasChangedFields =
      [[67, 111, 100, 101, 72, 97, 115, 104], [76, 105, 116, 101, 114, 97, 108, 115], [79, 112, 116, 105, 111, 110, 115, 46, 70, 105, 108, 101, 78, 97, 109, 101], [79, 112, 116, 105, 111, 110, 115, 46, 83, 107, 105, 112, 67, 111, 100, 101, 71, 101, 110, 101, 114, 97, 116, 101, 100, 67, 111, 109, 109, 101, 110, 116], [79, 112, 116, 105, 111, 110, 115, 46, 86, 101, 114, 115, 105, 111, 110],
       [83, 111, 117, 114, 99, 101, 77, 97, 112, 46, 69, 120, 112, 114, 101, 115, 115, 105, 111, 110, 115]] ∧
    Generated.codeHashSkipSites = [[99, 108, 111, 115, 101, 76, 105, 116, 101, 114, 97, 108], [119, 114, 105, 116, 101, 71, 101, 110, 101, 114, 97, 116, 101, 100, 68, 97, 116, 101, 67, 111, 109, 109, 101, 110, 116]] :=
  ⟨rfl, rfl⟩

/-- Non-vacuity: a literal with a quote, a backslash, a newline, a non-ASCII character and an invalid byte. -/
example : unquote (quote (fun r => 32 ≤ r && r != 127 && r != 0xFFFD) [34, 92, 10, 195, 169, 255, 97]) = some [34, 92, 10, 195, 169, 255, 97] := by decide

/-! ## The text file is current after every edit; the running program notices every rewrite -/

open TemplVerif.Watch in
/-- After ANY sequence of edits handled by one handler, the development text file is the one written for the last
    version - provided the digest that guards the write is taken of a value that determines the file (`hk`). -/
theorem C16_textfile_current (key : List Bytes → Bytes) (hk : ∀ a b, key a = key b → textFile a = textFile b)
    (g : Guard) (hg : ∀ l, g.last = some (key l) → g.disk = some (textFile l))
    (edits : List (List Bytes)) (final : List Bytes) :
    (Guard.run key g (edits ++ [final])).disk = some (textFile final) := by
  rw [Proofs.Watch.run_concat]
  exact (Proofs.Watch.Current.run hk hg edits).step hk final final (Proofs.Watch.step_last ..)

open TemplVerif.Watch in
/-- The digest in the code is of the joined text, which IS the file: the hypothesis of `C16_textfile_current` holds. -/
theorem C16_textfile_current_joined (edits : List (List Bytes)) (final : List Bytes) :
    (Guard.run keyJoined {} (edits ++ [final])).disk = some (textFile final) :=
  C16_textfile_current keyJoined (fun _ _ h => h) {} (by intro l h; simp at h) edits final

open TemplVerif.Watch in
/-- Why the digest must be of the joined text: fed literal by literal without a separator, moving an expression
    through static text (`a`,`b` -> `ab`,``) leaves the digest unchanged and the stale file on disk. -/
theorem C16_textfile_concat_counterexample :
    (Guard.run keyConcat {} [[[97], [98]], [[97, 98], []]]).disk = some (textFile [[97], [98]]) ∧
    textFile [[97], [98]] ≠ textFile [[97, 98], []] := by decide +kernel

open TemplVerif.Watch in
/-- T1: in FSEventHandler.generate the guarding digest is taken of `[]byte(joined)`, the bytes written are
    `[]byte(joined)`, and `joined` is the literals joined by line feeds. -/
theorem C16_textguard_pinned :
    Generated.textJoinedExpr = [115, 116, 114, 105, 110, 103, 115, 46, 74, 111, 105, 110, 40, 103, 101, 110, 101, 114, 97, 116, 111, 114, 79, 117, 116, 112, 117, 116, 46, 76, 105, 116, 101, 114, 97, 108, 115, 44, 32, 34, 92, 110, 34, 41] ∧
    Generated.textHashOf = [115, 104, 97, 50, 53, 54, 46, 83, 117, 109, 50, 53, 54, 32, 111, 102, 32, 91, 93, 98, 121, 116, 101, 40, 106, 111, 105, 110, 101, 100, 41] ∧
    Generated.textGuardArg = [116, 120, 116, 72, 97, 115, 104] ∧
    Generated.textWriteArg = [91, 93, 98, 121, 116, 101, 40, 106, 111, 105, 110, 101, 100, 41] :=
  ⟨rfl, rfl, rfl, rfl⟩

open TemplVerif.Watch in
/-- The running program: while the cache is not ahead of the file (`Inv`), every look at the file `throttle` or more
    after the file's last modification returns the file's current lines - and keeps the invariant. -/
theorem C16_watch_fresh (throttle : Nat) (c : Cache) (f : File) (now : Nat) (hi : Inv c f) (hn : f.mtime + throttle ≤ now) :
    (look loadMtime throttle c f now).lines = f.lines ∧ Inv (look loadMtime throttle c f now) f :=
  ⟨Proofs.Watch.look_lines hi hn, Proofs.Watch.look_inv hi⟩

open TemplVerif.Watch in
/-- `Inv` holds after a load, survives every look (early ones included), and survives every rewrite of the file that
    gets a later modification time (the file system's clock is the assumption here). -/
theorem C16_watch_inv (throttle : Nat) (c : Cache) (f : File) (now : Nat) (hi : Inv c f) :
    Inv (loadMtime f now) f ∧ Inv (look loadMtime throttle c f now) f ∧ (∀ f' : File, f.mtime < f'.mtime → Inv c f') :=
  ⟨Proofs.Watch.loadMtime_inv, Proofs.Watch.look_inv hi,
    fun _ hlt => ⟨Nat.le_of_lt (Nat.lt_of_le_of_lt hi.1 hlt), fun h => absurd (h ▸ hi.1) (Nat.not_le.mpr hlt)⟩⟩

open TemplVerif.Watch in
/-- Why the remembered time must be the FILE's: remembering the time of loading (10) and a rewrite stamped by a
    coarser clock (9, later content) is never noticed, however late one looks. -/
theorem C16_watch_loadtime_counterexample :
    ∀ now ∈ [200, 5000, 1000000],
      (look loadNow 100 (loadNow { mtime := 5, lines := [[97]] } 10) { mtime := 9, lines := [[98]] } now).lines = [[97]] := by decide +kernel

/-- T1: cacheStrings remembers `info.ModTime()` of `txtFile.Stat()`; getWatchedStrings serves the cache while
    `time.Since(state.modTime) < 100ms` and otherwise reloads unless `!info.ModTime().After(state.modTime)`. -/
theorem C16_watch_pinned :
    Generated.watchCacheModTimeExpr = [105, 110, 102, 111, 46, 77, 111, 100, 84, 105, 109, 101, 40, 41] ∧
    Generated.watchCacheInfoSource = [116, 120, 116, 70, 105, 108, 101, 46, 83, 116, 97, 116, 40, 41] ∧
    Generated.watchThrottleCond = [116, 105, 109, 101, 46, 83, 105, 110, 99, 101, 40, 115, 116, 97, 116, 101, 46, 109, 111, 100, 84, 105, 109, 101, 41, 32, 60, 32, 116, 105, 109, 101, 46, 77, 105, 108, 108, 105, 115, 101, 99, 111, 110, 100, 42, 49, 48, 48] ∧
    Generated.watchStaleCond = [33, 105, 110, 102, 111, 46, 77, 111, 100, 84, 105, 109, 101, 40, 41, 46, 65, 102, 116, 101, 114, 40, 115, 116, 97, 116, 101, 46, 109, 111, 100, 84, 105, 109, 101, 41] :=
  ⟨rfl, rfl, rfl, rfl⟩

/-- Non-vacuity: a load, an early look (throttled: old lines are still allowed), a rewrite, a late look. -/
example : Watch.Inv (Watch.loadMtime { mtime := 5, lines := [[97]] } 6) { mtime := 5, lines := [[97]] } := ⟨Nat.le_refl _, fun _ => rfl⟩
example : (Watch.look Watch.loadMtime 100 (Watch.loadMtime { mtime := 5, lines := [[97]] } 6) { mtime := 50, lines := [[98]] } 150).lines = [[98]] := by decide +kernel

-- BEGIN transcription pins (written by tools/mkpins.py)
/-- T1, transcription pins: the control structure and calls (extract/skeleton.go) of the functions whose models
    were written by hand are the ones the models were transcribed from:
      cmd/templ/generatecmd/eventhandler.go FSEventHandler.UpsertHash
      runtime/watchmode.go WriteString
      runtime/watchmode.go cacheStrings
      runtime/watchmode.go getWatchedStrings
    A change of what one of them calls or how it branches breaks this theorem; the check then searches for a
    failing input and reports either that or `no-failing-input-found`. -/
theorem C16_transcription_pinned :
    Generated.skel_events_UpsertHash = 1893232857796062501 ∧
    Generated.skel_watch_WriteString = 10797578298239768643 ∧
    Generated.skel_watch_cacheStrings = 8400153006987411092 ∧
    Generated.skel_watch_getWatchedStrings = 2729183200917924902 := by decide
-- END transcription pins

/-! ## One window of the watch loop -/

open TemplVerif.Watch in
/-- The program is rebuilt at the end of a window exactly when SOME event of the window needs a recompilation - wherever
    in the window it came; an edit classified as needing none never cancels an earlier one that does. -/
theorem C16_window_rebuild (evs : List Ev) : (window evs).1 = evs.any (·.goUpdated) ∧ (window evs).2 = evs.any (·.textUpdated) := by
  rw [Proofs.Watch.window_eq]
  exact ⟨rfl, rfl⟩

open TemplVerif.Watch in
/-- Why the flags accumulate: if the last event decided alone, a Go-changing edit followed by a text-only one in the same
    window would leave the old program running. -/
theorem C16_window_last_counterexample :
    (windowLast [⟨true, true⟩, ⟨false, true⟩]).1 = false ∧ (window [⟨true, true⟩, ⟨false, true⟩]).1 = true := by decide +kernel

/-- T1: in cmd.go the flags are only ever assigned `flag || event's flag` or reset to false, and the rebuild is decided
    by the Go flag. -/
theorem C16_window_pinned :
    Generated.windowGoUpdatedAssigns = [103, 111, 85, 112, 100, 97, 116, 101, 100, 32, 124, 124, 32, 103, 101, 46, 71, 111, 85, 112, 100, 97, 116, 101, 100, 32, 59, 59, 32, 102, 97, 108, 115, 101] ∧
    Generated.windowTextUpdatedAssigns = [116, 101, 120, 116, 85, 112, 100, 97, 116, 101, 100, 32, 124, 124, 32, 103, 101, 46, 84, 101, 120, 116, 85, 112, 100, 97, 116, 101, 100, 32, 59, 59, 32, 102, 97, 108, 115, 101] ∧
    Generated.windowRebuildCond = [99, 109, 100, 46, 65, 114, 103, 115, 46, 67, 111, 109, 109, 97, 110, 100, 32, 33, 61, 32, 34, 34, 32, 38, 38, 32, 103, 111, 85, 112, 100, 97, 116, 101, 100] :=
  ⟨rfl, rfl, rfl⟩

end TemplVerif.Props.C16
