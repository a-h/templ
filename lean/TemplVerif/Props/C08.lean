import TemplVerif.Generated.Skeletons
import TemplVerif.Model.Norm
import TemplVerif.Proofs.Norm
import TemplVerif.Proofs.Spaced
/-
C08 — formatting never changes what a template renders.
Proved: two template bodies in the same layout class (Norm.body) generate the SAME statements, hence (C02) render the
same bytes, return the same error and evaluate the same expressions for all values; and, on the printer fragment of C09,
that formatting keeps a spaced source in its layout class (C08_fragment_class_kept). Checked on every run, not proved
(outside the fragment there is no model of the formatter's printer and of the parser): that `templ fmt` keeps every
template in its layout class (the REAL parser's trees of x and of fmt(x) are compared after Norm), that the formatted
file is accepted, and that the real generated code of both is the same program modulo positions and gofmt.
-/
namespace TemplVerif.Props.C08
open TemplVerif TemplVerif.Ast TemplVerif.Sem

theorem C08_same_class_same_program (b b' : Nodes) (h : Norm.body b = Norm.body b') :
    Gen.genTemplate b = Gen.genTemplate b' := by
  rw [← Proofs.Norm.gen_norm b, ← Proofs.Norm.gen_norm b', h]

theorem C08_same_class_same_rendering (b b' : Nodes) (h : Norm.body b = Norm.body b') (env : Env) :
    Gen.run b env = Gen.run b' env := by
  unfold Gen.run
  rw [C08_same_class_same_program b b' h]

/-- On the printer fragment (C09's `Printer` / `Reparse`): a parser-built tree whose source already has white space
    wherever the printer breaks a line next to inline content (`Spaced.body`) is re-parsed, after formatting, into a tree
    of the SAME layout class — so (with the theorems above) formatting it changes neither the generated statements nor
    what they render. The templates that violate `Spaced.body` are exactly where the known finding (a space added between
    glued inline neighbours) lives. -/
theorem C08_fragment_class_kept (b : Nodes) (hf : Printer.nodesInFragment b = true) (hw : Reparse.wfNodes b = true)
    (hs : Spaced.body b = true) :
    Norm.body (Reparse.body b) = Norm.body b := by
  simp only [TemplVerif.Spaced.body, Bool.and_eq_true] at hs
  exact Proofs.Spaced.nodes_kept b hw hf hs.1 hs.2 Proofs.Printer.lvlOk_block rfl

theorem C08_fragment_same_program (b : Nodes) (hf : Printer.nodesInFragment b = true) (hw : Reparse.wfNodes b = true)
    (hs : Spaced.body b = true) (env : Env) :
    Gen.genTemplate (Reparse.body b) = Gen.genTemplate b ∧ Gen.run (Reparse.body b) env = Gen.run b env :=
  ⟨C08_same_class_same_program _ _ (C08_fragment_class_kept b hf hw hs),
   C08_same_class_same_rendering _ _ (C08_fragment_class_kept b hf hw hs) env⟩

theorem C08_norm_projection (b : Nodes) : Norm.body (Norm.body b) = Norm.body b :=
  Proofs.Norm.nodes_idem true true b false

/-- Non-vacuity: `<p>{ S }⏎<b>x</b></p>` laid out on three lines with indentation whitespace and flags set, and on one
    line: same class, so same program. -/
example :
    let multi : Nodes := .cons (.ws [10, 9]) (.cons (.element [112] .nil
        (.cons (.ws [10, 9, 9]) (.cons (.strExpr [83] .vert) (.cons (.ws [9, 9]) (.cons (.element [98] .nil (.cons (.text [120] .none) .nil) .vert false false)
          (.cons (.ws [9]) .nil))))) .vert false true) (.cons (.ws [10]) .nil))
    let single : Nodes := .cons (.element [112] .nil
        (.cons (.strExpr [83] .horiz) (.cons (.element [98] .nil (.cons (.text [120] .none) .nil) .none false false) .nil)) .none false false) .nil
    Norm.body multi = Norm.body single ∧ Norm.body multi = single := by
  decide +kernel

-- BEGIN transcription pins (written by tools/mkpins.py)
/-- T1, transcription pins: the control structure and calls (extract/skeleton.go) of the functions whose models
    were written by hand are the ones the models were transcribed from:
      parser/v2/types.go BoolConstantAttribute.Write
      parser/v2/types.go BoolExpressionAttribute.Write
      parser/v2/types.go CSSTemplate.Write
      parser/v2/types.go CallTemplateExpression.Write
      parser/v2/types.go ChildrenExpression.Write
      parser/v2/types.go ConditionalAttribute.Write
      parser/v2/types.go ConstantAttribute.Write
      parser/v2/types.go ConstantCSSProperty.Write
      parser/v2/types.go DocType.Write
      parser/v2/types.go Element.Write
      parser/v2/types.go ExpressionAttribute.Write
      parser/v2/types.go ExpressionCSSProperty.Write
      parser/v2/types.go ForExpression.Write
      parser/v2/types.go GoCode.Write
      parser/v2/types.go GoComment.Write
      parser/v2/types.go HTMLComment.Write
      parser/v2/types.go HTMLTemplate.Write
      parser/v2/types.go IfExpression.Write
      parser/v2/types.go Package.Write
      parser/v2/types.go RawElement.Write
      parser/v2/types.go ScriptElement.Write
      parser/v2/types.go ScriptTemplate.Write
      parser/v2/types.go SpreadAttributes.Write
      parser/v2/types.go StringExpression.Write
      parser/v2/types.go SwitchExpression.Write
      parser/v2/types.go TemplElementExpression.Write
      parser/v2/types.go TemplateFile.Write
      parser/v2/types.go TemplateFileGoExpression.Write
      parser/v2/types.go Text.Write
      parser/v2/types.go Whitespace.Write
    A change of what one of them calls or how it branches breaks this theorem; the check then searches for a
    failing input and reports either that or `no-failing-input-found`. -/
theorem C08_transcription_pinned :
    Generated.skel_fmt_BoolConstantAttribute = 17964454261460013838 ∧
    Generated.skel_fmt_BoolExpressionAttribute = 11243877805884256764 ∧
    Generated.skel_fmt_CSSTemplate = 10486559759305371780 ∧
    Generated.skel_fmt_CallTemplateExpression = 4754677790992354005 ∧
    Generated.skel_fmt_ChildrenExpression = 8973048098999815633 ∧
    Generated.skel_fmt_ConditionalAttribute = 2131278597794675548 ∧
    Generated.skel_fmt_ConstantAttribute = 17190133187334056934 ∧
    Generated.skel_fmt_ConstantCSSProperty = 9028660431953749041 ∧
    Generated.skel_fmt_DocType = 2337572934743534415 ∧
    Generated.skel_fmt_Element = 15653131509271426703 ∧
    Generated.skel_fmt_ExpressionAttribute = 15138201634416348715 ∧
    Generated.skel_fmt_ExpressionCSSProperty = 17518302242369419524 ∧
    Generated.skel_fmt_ForExpression = 1342625959466410837 ∧
    Generated.skel_fmt_GoCode = 5520114962642325106 ∧
    Generated.skel_fmt_GoComment = 2865620347699289652 ∧
    Generated.skel_fmt_HTMLComment = 2337572934743534415 ∧
    Generated.skel_fmt_HTMLTemplate = 12553196804296595469 ∧
    Generated.skel_fmt_IfExpression = 3942449742783697541 ∧
    Generated.skel_fmt_Package = 2337572934743534415 ∧
    Generated.skel_fmt_RawElement = 11505227016490775874 ∧
    Generated.skel_fmt_ScriptElement = 8089826004982831993 ∧
    Generated.skel_fmt_ScriptTemplate = 10019798481422971980 ∧
    Generated.skel_fmt_SpreadAttributes = 15030267648810377398 ∧
    Generated.skel_fmt_StringExpression = 8810321671428492873 ∧
    Generated.skel_fmt_SwitchExpression = 11736646981924421930 ∧
    Generated.skel_fmt_TemplElementExpression = 17089425217095634118 ∧
    Generated.skel_fmt_TemplateFile = 8684252644459683408 ∧
    Generated.skel_fmt_TemplateFileGoExpression = 15670954479218328045 ∧
    Generated.skel_fmt_Text = 2337572934743534415 ∧
    Generated.skel_fmt_Whitespace = 13121865947735479079 := by decide
-- END transcription pins

end TemplVerif.Props.C08
