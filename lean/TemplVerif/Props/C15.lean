import TemplVerif.Generated.Skeletons
import TemplVerif.Model.Fs
import TemplVerif.Proofs.Fs
import TemplVerif.Generated.Walk
/-
C15 — `templ generate` output is a deterministic function of the tree.
Proved for the model: every schedule (hence every worker count) of the look/act steps of all handlers ends in the
tree the specification describes, which is spelled out by C15_generated / C15_orphan / C15_untouched; the
specification is a fixed point (second run); a failing file is counted and changes nothing else.
Checked, not proved: that the real walk, handler and CLI are this model (correspondence on random trees through
the real, race-instrumented CLI), and data-race freedom of the shared handler state.
-/
namespace TemplVerif.Props.C15
open TemplVerif TemplVerif.Fs

/-- Every complete schedule produces the specified tree and the command fails exactly when some visited .templ file
    cannot be generated. -/
theorem C15_spec (cfg : Cfg) (genOf : Path → Bytes → Option Bytes) (fs0 : Fs) (sched : List Path)
    (hdone : ∀ e ∈ eventsOf cfg fs0, e ∈ (run cfg genOf (eventsOf cfg fs0) fs0 sched).finished) :
    (∀ p, get (run cfg genOf (eventsOf cfg fs0) fs0 sched).fs p = spec cfg genOf fs0 p) ∧
    (run cfg genOf (eventsOf cfg fs0) fs0 sched).errs = failures cfg genOf fs0 := by
  have h := Proofs.Fs.inv_run cfg genOf fs0 sched
  have hmem : ∀ x, x ∈ (run cfg genOf (eventsOf cfg fs0) fs0 sched).finished ↔ x ∈ eventsOf cfg fs0 :=
    fun x => ⟨h.sub x, hdone x⟩
  refine ⟨fun p => ?_, ?_⟩
  · rw [h.fs, Proofs.Fs.spec_eq_eff]
    exact Proofs.Fs.eff_congr hmem p
  · rw [h.errs]
    exact Proofs.Fs.length_filter_congr h.nodup Proofs.Fs.nodup_eventsOf (fun x => by rw [hmem])

/-- Scheduling independence: any two complete schedules agree on every path and on the failure count. -/
theorem C15_schedule_independent (cfg : Cfg) (genOf : Path → Bytes → Option Bytes) (fs0 : Fs) (s1 s2 : List Path)
    (h1 : ∀ e ∈ eventsOf cfg fs0, e ∈ (run cfg genOf (eventsOf cfg fs0) fs0 s1).finished)
    (h2 : ∀ e ∈ eventsOf cfg fs0, e ∈ (run cfg genOf (eventsOf cfg fs0) fs0 s2).finished) :
    (∀ p, get (run cfg genOf (eventsOf cfg fs0) fs0 s1).fs p = get (run cfg genOf (eventsOf cfg fs0) fs0 s2).fs p) ∧
    (run cfg genOf (eventsOf cfg fs0) fs0 s1).errs = (run cfg genOf (eventsOf cfg fs0) fs0 s2).errs := by
  obtain ⟨a1, b1⟩ := C15_spec cfg genOf fs0 s1 h1
  obtain ⟨a2, b2⟩ := C15_spec cfg genOf fs0 s2 h2
  exact ⟨fun p => (a1 p).trans (a2 p).symm, b1.trans b2.symm⟩

/-- Complete schedules exist (the -w 1 run). -/
theorem C15_sequential_complete (cfg : Cfg) (genOf : Path → Bytes → Option Bytes) (fs0 : Fs) :
    ∀ e ∈ eventsOf cfg fs0, e ∈ (run cfg genOf (eventsOf cfg fs0) fs0 (seqSched (eventsOf cfg fs0))).finished :=
  Proofs.Fs.seq_finishes (fun _ h => h) _

/-- Every .templ file outside skipped directories gets a sibling holding its generation alone. -/
theorem C15_generated (cfg : Cfg) (genOf : Path → Bytes → Option Bytes) (fs0 : Fs) (e : Path) (src code : Bytes)
    (hv : visited cfg e = true) (ht : hasSuffix e sufTempl = true) (hsrc : get fs0 e = some src)
    (hgen : genOf e src = some code) :
    spec cfg genOf fs0 (targetOf e) = some code := by
  have he := Proofs.Fs.templOf_targetOf ht
  rw [Proofs.Fs.spec_eq_eff]
  refine Proofs.Fs.eff_write (he.symm ▸ Proofs.Fs.mem_eventsOf.mpr ⟨by simp [hsrc], hv⟩) ?_
  rw [he, Proofs.Fs.action_of_templ ht, hsrc]
  simp only [hgen]

/-- Orphaned generated files are gone unless kept by flag. -/
theorem C15_orphan (cfg : Cfg) (genOf : Path → Bytes → Option Bytes) (fs0 : Fs) (p : Path)
    (hv : visited cfg p = true) (hg : hasSuffix p sufTemplGo = true) (hp : (get fs0 p).isSome)
    (hno : get fs0 (templOf p) = none) :
    spec cfg genOf fs0 p = if cfg.keepOrphaned then get fs0 p else none := by
  have hA : action cfg genOf fs0 p = _ := Proofs.Fs.action_of_go hg
  have hT : action cfg genOf fs0 (templOf p) = _ := Proofs.Fs.action_of_templ (Proofs.Fs.templOf_suffix p)
  rw [hno] at hA hT
  rw [Proofs.Fs.spec_eq_eff]
  cases hk : cfg.keepOrphaned
  · rw [Proofs.Fs.eff_remove (by simp [hA, hk]), if_pos (Proofs.Fs.mem_eventsOf.mpr ⟨hp, hv⟩)]
    rfl
  · exact Proofs.Fs.eff_other (by simp [hT]) (by simp [hA, hk])

/-- No other file is touched (in particular nothing inside skipped directories, no file that fails to generate). -/
theorem C15_untouched (cfg : Cfg) (genOf : Path → Bytes → Option Bytes) (fs0 : Fs) (p : Path)
    (hnt : ∀ e src, visited cfg e = true → hasSuffix e sufTempl = true → get fs0 e = some src →
            (genOf e src).isSome → targetOf e ≠ p)
    (hno : ¬ (visited cfg p = true ∧ hasSuffix p sufTemplGo = true ∧ (get fs0 p).isSome ∧
              get fs0 (templOf p) = none ∧ cfg.keepOrphaned = false)) :
    spec cfg genOf fs0 p = get fs0 p := by
  rw [Proofs.Fs.spec_eq_eff]
  refine Proofs.Fs.eff_other (fun hev c h => ?_) (fun hev h => ?_)
  · obtain ⟨ht, hq, src, hsrc, hgen⟩ := Proofs.Fs.action_decided h
    exact hnt _ src (Proofs.Fs.mem_eventsOf.mp hev).2 ht hsrc (by simp [hgen]) hq.symm
  · obtain ⟨_, hg, hn, hk⟩ := Proofs.Fs.action_decided h
    obtain ⟨hs, hv⟩ := Proofs.Fs.mem_eventsOf.mp hev
    exact hno ⟨hv, hg, hs, hn, hk⟩

/-- Running again on the result changes no content and fails for the same files. -/
theorem C15_idempotent (cfg : Cfg) (genOf : Path → Bytes → Option Bytes) (fs0 : Fs) (s1 s2 : List Path)
    (h1 : ∀ e ∈ eventsOf cfg fs0, e ∈ (run cfg genOf (eventsOf cfg fs0) fs0 s1).finished)
    (h2 : ∀ e ∈ eventsOf cfg (run cfg genOf (eventsOf cfg fs0) fs0 s1).fs,
            e ∈ (run cfg genOf (eventsOf cfg (run cfg genOf (eventsOf cfg fs0) fs0 s1).fs) (run cfg genOf (eventsOf cfg fs0) fs0 s1).fs s2).finished) :
    let fs1 := (run cfg genOf (eventsOf cfg fs0) fs0 s1).fs
    (∀ p, get (run cfg genOf (eventsOf cfg fs1) fs1 s2).fs p = get fs1 p) ∧
    (run cfg genOf (eventsOf cfg fs1) fs1 s2).errs = (run cfg genOf (eventsOf cfg fs0) fs0 s1).errs := by
  intro fs1
  obtain ⟨a1, b1⟩ := C15_spec cfg genOf fs0 s1 h1
  obtain ⟨a2, b2⟩ := C15_spec cfg genOf fs1 s2 h2
  obtain ⟨c1, c2⟩ := Proofs.Fs.spec_idem a1
  exact ⟨fun p => (a2 p).trans (c1 p), b2.trans (c2.trans b1.symm)⟩

/-- T1: what the current source says about the walk and the handler is what the model assumes — ShouldSkip is
    consulted for directories only, the handler tests exactly the model's three suffixes in the model's order, the
    sibling name is TrimSuffix(.templ) + _templ.go, and the default watch pattern is the one `matchesWatch` encodes. -/
theorem C15_pinned :
    Generated.skipAppliesToDirsOnly = true ∧
    Generated.handlerSuffixes = [sufTemplGo, sufTempl, sufGo] ∧
    Generated.targetSuffixes = [sufTempl, sufTemplGo] ∧
    Generated.defaultWatchPattern = [40, 46, 43, 92, 46, 103, 111, 36, 41, 124, 40, 46, 43, 92, 46, 116, 101, 109, 112, 108, 36, 41] :=
  ⟨rfl, rfl, rfl, rfl⟩

/-- Non-vacuity: a tree with a stale sibling, an orphan, a skipped directory, an underscore-prefixed FILE (not skipped)
    and a file that cannot be generated; two different complete schedules. -/
example :
    let cfg : Cfg := { keepOrphaned := false, skipExact := Generated.skipExact, skipPrefixes := Generated.skipPrefixes }
    let genOf : Path → Bytes → Option Bytes := fun _ src => if src.contains 33 then none else some (71 :: src)
    let fs0 : Fs := [([97, 47, 120, 46, 116, 101, 109, 112, 108], [1]),                       -- a/x.templ
                     ([97, 47, 120, 95, 116, 101, 109, 112, 108, 46, 103, 111], [9]),          -- a/x_templ.go (stale)
                     ([97, 47, 111, 95, 116, 101, 109, 112, 108, 46, 103, 111], [8]),          -- a/o_templ.go (orphan)
                     ([95, 116, 47, 113, 46, 116, 101, 109, 112, 108], [2]),                   -- _t/q.templ (skipped dir)
                     ([97, 47, 95, 117, 46, 116, 101, 109, 112, 108], [3]),                    -- a/_u.templ (file, not skipped)
                     ([97, 47, 98, 46, 116, 101, 109, 112, 108], [33])]                        -- a/b.templ (fails)
    let ev := eventsOf cfg fs0
    let s1 := run cfg genOf ev fs0 (seqSched ev)
    let s2 := run cfg genOf ev fs0 (ev ++ ev.reverse)
    ev.length = 5 ∧ s1.errs = 1 ∧ s2.errs = 1 ∧
    (fs0.map (·.1) ++ s1.fs.map (·.1)).all (fun p => get s1.fs p == get s2.fs p && get s1.fs p == spec cfg genOf fs0 p) = true ∧
    get s1.fs [97, 47, 120, 95, 116, 101, 109, 112, 108, 46, 103, 111] = some [71, 1] ∧
    get s1.fs [97, 47, 111, 95, 116, 101, 109, 112, 108, 46, 103, 111] = none ∧
    get s1.fs [97, 47, 95, 117, 95, 116, 101, 109, 112, 108, 46, 103, 111] = some [71, 3] ∧
    get s1.fs [95, 116, 47, 113, 95, 116, 101, 109, 112, 108, 46, 103, 111] = none := by
  decide +kernel

-- BEGIN transcription pins (written by tools/mkpins.py)
/-- T1, transcription pins: the control structure and calls (extract/skeleton.go) of the functions whose models
    were written by hand are the ones the models were transcribed from:
      cmd/templ/generatecmd/eventhandler.go FileWriter
      cmd/templ/generatecmd/eventhandler.go FSEventHandler.HandleEvent
      cmd/templ/generatecmd/eventhandler.go FSEventHandler.UpsertLastModTime
      cmd/templ/generatecmd/watcher/watch.go WalkFiles
    A change of what one of them calls or how it branches breaks this theorem; the check then searches for a
    failing input and reports either that or `no-failing-input-found`. -/
theorem C15_transcription_pinned :
    Generated.skel_events_FileWriter = 9076450457970906327 ∧
    Generated.skel_events_HandleEvent = 10248215779350580241 ∧
    Generated.skel_events_UpsertLastModTime = 2428717206913043922 ∧
    Generated.skel_walk_WalkFiles = 17625773593303583570 := by decide
-- END transcription pins

end TemplVerif.Props.C15
