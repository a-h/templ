import TemplVerif.Generated.Skeletons
import TemplVerif.Model.Css
import TemplVerif.Spec.CssScan
import TemplVerif.Proofs.Css
/-
C05 — dynamic CSS values cannot escape their declaration.
`CssModel.sanitize` models safehtml.SanitizeCSS over the tables regenerated from safehtml/style.go;
`Css.scanDecl` is the CSS Syntax 3 declaration scanner specification.
-/
namespace TemplVerif.Props.C05
open TemplVerif TemplVerif.CssModel

/-- T1 pins: the hand-written recognisers stand for exactly these regular expressions. -/
theorem C05_regex_pins :
    Generated.identifierPatternSrc = [94, 91, 45, 97, 45, 122, 65, 45, 90, 93, 43, 36] ∧
    Generated.genericFontFamilyNameSrc = [94, 91, 97, 45, 122, 65, 45, 90, 93, 91, 45, 32, 97, 45, 122, 65, 45, 90, 93, 43, 36] ∧
    Generated.safeRegularPropertyValuePatternSrc = [94, 40, 63, 58, 91, 42, 47, 93, 63, 40, 63, 58, 91, 48, 45, 57, 97, 45, 122, 65, 45, 90, 43, 45, 46, 33, 35, 37, 95, 32, 92, 116, 93, 124, 36, 41, 41, 42, 36] ∧
    Generated.safeEnumPropertyValuePatternSrc = [94, 91, 97, 45, 122, 65, 45, 90, 45, 93, 42, 36] :=
  ⟨rfl, rfl, rfl, rfl⟩

/-- T1 pins: url() forms the background-image sanitiser recognises. -/
theorem C05_url_forms_pinned :
    Generated.validURLPrefixes = [[117, 114, 108, 40, 34], [117, 114, 108, 40, 39], [117, 114, 108, 40]] ∧
    Generated.validURLSuffixes = [[34, 41], [39, 41], [41]] :=
  ⟨rfl, rfl⟩

/-- T1: the character sets the two tightened sanitisers reject (as they are in the source now) contain
    everything the safety argument needs: quote, backslash, `<>`, `;{}`, newlines for quoted font names;
    `<>` for the whole background-image value; quotes, parentheses, backslash, `;{}` and white space for url bodies. -/
theorem C05_forbidden_sets :
    ([34, 92, 60, 62, 59, 123, 125, 10, 13, 12] : List UInt8).all
        (fun c => (Generated.sanitizeFontFamilyContainsAny.getD 0 []).contains c) = true ∧
    ([60, 62] : List UInt8).all (fun c => (Generated.sanitizeBackgroundImageContainsAny.getD 0 []).contains c) = true ∧
    ([34, 39, 40, 41, 92, 59, 123, 125, 32, 9, 10, 13, 12] : List UInt8).all
        (fun c => (Generated.sanitizeBackgroundImageContainsAny.getD 1 []).contains c) = true :=
  Proofs.Css.forbidden_sets

/-- T1: comma parts are trimmed with CSS white space only (space, tab, LF, CR, FF), never with Unicode spaces
    that CSS treats as identifier characters. -/
theorem C05_whitespace_pinned : Generated.cssWhitespace.all (fun b => [32, 9, 10, 13, 12].contains b) = true := by decide +kernel

/-- T1: the three properties the statement names go to their special sanitisers; every mapped sanitiser is known. -/
theorem C05_map_pinned :
    Generated.cssSanitizers.lookup [98, 97, 99, 107, 103, 114, 111, 117, 110, 100, 45, 105, 109, 97, 103, 101] = some fnBackgroundImage ∧
    Generated.cssSanitizers.lookup [102, 111, 110, 116, 45, 102, 97, 109, 105, 108, 121] = some fnFontFamily ∧
    Generated.cssSanitizers.lookup [100, 105, 115, 112, 108, 97, 121] = some fnEnum ∧
    Generated.cssSanitizers.all (fun kv => [fnBackgroundImage, fnFontFamily, fnEnum, fnRegular].contains kv.2) = true := by decide +kernel

/-- Property names: lower-case `[-a-z]+` or the fixed innocuous name. -/
theorem C05_name (p : Bytes) :
    sanitizeProperty p = Generated.cssInnocuousPropertyName ∨
    (sanitizeProperty p ≠ [] ∧ ∀ b ∈ sanitizeProperty p, b = 45 ∨ (97 ≤ b ∧ b ≤ 122)) := by
  unfold sanitizeProperty
  split
  · rename_i h
    right
    simp only [matchIdentifier, Bool.and_eq_true, Bool.not_eq_true', List.isEmpty_eq_false_iff,
      List.all_eq_true] at h
    refine ⟨by simpa using h.1, ?_⟩
    intro b hb
    obtain ⟨a, ha, rfl⟩ := List.mem_map.mp hb
    exact Proofs.Css.lower_ident a (h.2 a ha)
  · left; rfl

/-- For EVERY (property, value) pair and whatever net/url.Parse answers: the sanitised pair affects exactly its
    own declaration (scanner ends at the `;` written after it, for every continuation), calls no function other
    than url() with no / http / https / mailto scheme, and contains no `<`. -/
theorem C05_main (parseOk : Bytes → Bool) (p v : Bytes) :
    Css.DeclSafe (sanitize parseOk p v).1 (sanitize parseOk p v).2 := by
  unfold sanitize
  simp only
  split
  · exact Proofs.Css.pair_good (by decide) Proofs.Css.innocuous_good
  · rename_i hne
    rcases C05_name p with h | ⟨_, h⟩
    · simp [h] at hne
    · exact Proofs.Css.pair_good
        (fun b hb => Proofs.Css.safe_of_fontByte (by rcases h b hb with rfl | h' <;> simp [isAlpha, *]))
        (Proofs.Css.sanitizeValue_good parseOk _ v)

/-- Style attribute (map / key-value forms): the decoded attribute text is `name:value;` of the sanitised pair. -/
theorem C05_styleAttr (parseOk : Bytes → Bool) (p v rest : Bytes) :
    Html.decodeRefs (styleItem parseOk p v ++ rest) =
      (sanitize parseOk p v).1 ++ [58] ++ (sanitize parseOk p v).2 ++ [59] ++ Html.decodeRefs rest := by
  simp only [styleItem, List.append_assoc]
  rw [Proofs.Html.decode_escape_append]
  rw [List.singleton_append, Proofs.Html.decodeRefs_cons_ne 58 (by decide), Proofs.Html.decode_escape_append,
    List.singleton_append, Proofs.Html.decodeRefs_cons_ne 59 (by decide)]
  simp

/-- Non-vacuity: an accepted url() value and the two break-outs the unrepaired sanitisers let through. -/
example : sanitize (fun _ => true) [98, 97, 99, 107, 103, 114, 111, 117, 110, 100, 45, 105, 109, 97, 103, 101] [117, 114, 108, 40, 47, 97, 46, 112, 110, 103, 41] = ([98, 97, 99, 107, 103, 114, 111, 117, 110, 100, 45, 105, 109, 97, 103, 101], [117, 114, 108, 40, 47, 97, 46, 112, 110, 103, 41]) := by decide +kernel
example : (sanitize (fun _ => true) [98, 97, 99, 107, 103, 114, 111, 117, 110, 100, 45, 105, 109, 97, 103, 101] [117, 114, 108, 40, 47, 97, 41, 59, 99, 111, 108, 111, 114, 58, 114, 101, 100, 59, 120, 58, 117, 114, 108, 40, 98, 41]).2 = innocuousValue := by decide +kernel
example : (sanitize (fun _ => true) [102, 111, 110, 116, 45, 102, 97, 109, 105, 108, 121] [34, 120, 34, 59, 32, 99, 111, 108, 111, 114, 58, 32, 114, 101, 100, 59, 32, 34, 121, 34]).2 = innocuousValue := by decide +kernel
example : Css.declSafeWith [99, 111, 108, 111, 114] [114, 101, 100] [120, 58, 121] = true := by decide +kernel
example : Css.declSafeWith [102, 111, 110, 116, 45, 102, 97, 109, 105, 108, 121] [34, 120, 34, 59, 32, 99, 111, 108, 111, 114, 58, 32, 114, 101, 100, 59, 32, 34, 121, 34] [] = false := by decide +kernel

/-- Non-vacuity of the two paths through a control byte: `background-image: url(#\x01)` is kept by the sanitiser and scanned as a
    bad url (nothing recorded); `url("a#\x7f")` is kept and its body is recorded and allowed. -/
example :
    (sanitize (fun _ => true) [98, 97, 99, 107, 103, 114, 111, 117, 110, 100, 45, 105, 109, 97, 103, 101]
      [117, 114, 108, 40, 35, 1, 41]).2 = [117, 114, 108, 40, 35, 1, 41] ∧
    Css.scanDecl ([98, 97, 99, 107, 103, 114, 111, 117, 110, 100, 45, 105, 109, 97, 103, 101] ++ [58] ++
      [117, 114, 108, 40, 35, 1, 41] ++ [59] ++ [120]) = some (24, []) := by decide +kernel
example :
    (sanitize (fun _ => true) [98, 97, 99, 107, 103, 114, 111, 117, 110, 100, 45, 105, 109, 97, 103, 101]
      [117, 114, 108, 40, 34, 97, 35, 127, 34, 41]).2 = [117, 114, 108, 40, 34, 97, 35, 127, 34, 41] ∧
    Css.scanDecl ([98, 97, 99, 107, 103, 114, 111, 117, 110, 100, 45, 105, 109, 97, 103, 101] ++ [58] ++
      [117, 114, 108, 40, 34, 97, 35, 127, 34, 41] ++ [59] ++ [120]) = some (27, [[97, 35, 127]]) := by decide +kernel

-- BEGIN transcription pins (written by tools/mkpins.py)
/-- T1, transcription pins: the control structure and calls (extract/skeleton.go) of the functions whose models
    were written by hand are the ones the models were transcribed from:
      runtime.go SanitizeCSS
      safehtml/style.go SanitizeCSS
      safehtml/style.go SanitizeCSSProperty
      safehtml/style.go SanitizeCSSValue
      safehtml/style.go sanitizeBackgroundImage
      safehtml/style.go sanitizeEnum
      safehtml/style.go sanitizeFontFamily
      safehtml/style.go sanitizeRegular
      safehtml/style.go urlIsSafe
      runtime/styleattribute.go sanitizeStyleAttributeValue
    A change of what one of them calls or how it branches breaks this theorem; the check then searches for a
    failing input and reports either that or `no-failing-input-found`. -/
theorem C05_transcription_pinned :
    Generated.skel_runtime_SanitizeCSS = 9378241437246278277 ∧
    Generated.skel_safehtml_SanitizeCSS = 11362632238448651570 ∧
    Generated.skel_safehtml_SanitizeCSSProperty = 11265045131699987055 ∧
    Generated.skel_safehtml_SanitizeCSSValue = 13238686208247262430 ∧
    Generated.skel_safehtml_sanitizeBackgroundImage = 2388487536827179375 ∧
    Generated.skel_safehtml_sanitizeEnum = 10764163270014942412 ∧
    Generated.skel_safehtml_sanitizeFontFamily = 6454337714094907083 ∧
    Generated.skel_safehtml_sanitizeRegular = 7521923537659166537 ∧
    Generated.skel_safehtml_urlIsSafe = 13914283418647389984 ∧
    Generated.skel_styleattr_sanitizeStyleAttributeValue = 8475373072579502467 := by decide
-- END transcription pins

end TemplVerif.Props.C05
