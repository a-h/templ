import TemplVerif.Generated.Skeletons
import TemplVerif.Proofs.Docs
import TemplVerif.Model.Doc
import TemplVerif.Proofs.Doc
/-
C17 — the language server's document copy tracks the editor through any edit sequence.
`Doc.apply` transcribes `Document.Apply` (normalize, isWholeDocument, Insert, Delete, Overwrite,
InsertLines, DeleteLines); `Editor.apply` is the specification: a byte splice at clamped offsets.
-/
namespace TemplVerif.Props.C17
open TemplVerif TemplVerif.Doc

/-- `NewDocument` yields a well-formed document whose text is the input. -/
theorem C17_open (t : Bytes) : WellFormed (ofText t) ∧ text (ofText t) = t :=
  Proofs.Doc.ofText_wf_text t

/-- A nil range replaces the whole document. -/
theorem C17_nil (d : Doc) (txt : Bytes) :
    text (Doc.apply d none txt) = Editor.apply (text d) none txt :=
  joinLF_splitLF txt

/-- Every range edit is exactly the editor's byte splice (positions clamped), for every document,
    range with start ≤ end after clamping, and replacement text. -/
theorem C17_main (d : Doc) (hd : WellFormed d) (r : Rng) (txt : Bytes)
    (ho : ordered d (some r) = true) :
    text (Doc.apply d (some r) txt) = Editor.apply (text d) (some r) txt := by
  rw [Proofs.Doc.apply_spec hd]
  exact joinLF_splitLF _

/-- Well-formedness is preserved, so the step theorem applies along any history. -/
theorem C17_wf (d : Doc) (hd : WellFormed d) (r : Option Rng) (txt : Bytes) :
    WellFormed (Doc.apply d r txt) := by
  rw [Proofs.Doc.apply_spec hd]
  exact (Proofs.Doc.ofText_wf_text _).1

/-- After any sequence of open + changes the server's copy equals the editor's buffer. -/
theorem C17_hist (t₀ : Bytes) (cs : List Change) (h : allOrdered t₀ cs = true) :
    text (cs.foldl (fun d c => Doc.apply d c.1 c.2) (ofText t₀))
      = cs.foldl (fun t c => Editor.apply t c.1 c.2) t₀ := by
  rw [Proofs.Doc.hist]
  exact joinLF_splitLF _

/-- Non-vacuity: a concrete multi-line document and an ordered, clamped, multi-line overwrite. -/
example : WellFormed [[97, 98], [99, 100]] ∧ ordered [[97, 98], [99, 100]] (some ⟨⟨0, 1⟩, ⟨5, 9⟩⟩) = true ∧
    text (Doc.apply [[97, 98], [99, 100]] (some ⟨⟨0, 1⟩, ⟨5, 9⟩⟩) [120, 10, 121]) = [97, 120, 10, 121] := by
  exact ⟨⟨by decide, by decide⟩, by decide +kernel, by decide +kernel⟩

/-- The edit that the unrepaired `isWholeDocument` (`||`) mishandled: replace 0:0–0:2 of "ab\ncd" by "X". -/
example : text (Doc.apply [[97, 98], [99, 100]] (some ⟨⟨0, 0⟩, ⟨0, 2⟩⟩) [88]) = [88, 10, 99, 100] := by decide +kernel

/-! ## Several documents open at once

The server keeps one document per URI (`DocumentContents`, model `Docs`); URIs are compared byte for byte. -/

/-- A message about one document - open, change, close - leaves every other document as it is. -/
theorem C17_other_documents_untouched (s : Docs.Store) (m : Docs.Msg) (v : Bytes) (h : v ≠ m.uri) :
    Docs.lookup (Docs.step s m) v = Docs.lookup s v := by
  rw [Proofs.Docs.lookup_step, if_neg h]

/-- For ANY session over any number of documents, however interleaved: the server's copy of a document is what the
    messages about THAT document alone produce (to which `C17_hist` applies). -/
theorem C17_sessions_independent (ms : List Docs.Msg) (s : Docs.Store) (v : Bytes) :
    Docs.lookup (Docs.run s ms) v = Docs.lookup (Docs.run s (ms.filter fun m => m.uri == v)) v :=
  Proofs.Docs.run_filter ms s s v rfl

/-- Non-vacuity: two files whose names differ in letter case, edited in turn; closing one leaves the other. -/
example :
    let a : Bytes := [67, 97, 114, 100]   -- "Card"
    let b : Bytes := [99, 97, 114, 100]   -- "card"
    let s := Docs.run [] [.didOpen a [120], .didOpen b [121], .didChange a [(none, [122])], .didClose b]
    Docs.lookup s a = some [[122]] ∧ Docs.lookup s b = none := by decide +kernel

-- BEGIN transcription pins (written by tools/mkpins.py)
/-- T1, transcription pins: the control structure and calls (extract/skeleton.go) of the functions whose models
    were written by hand are the ones the models were transcribed from:
      cmd/templ/lspcmd/proxy/documentcontents.go Document.Apply
      cmd/templ/lspcmd/proxy/documentcontents.go DocumentContents.Apply
      cmd/templ/lspcmd/proxy/documentcontents.go DocumentContents.Delete
      cmd/templ/lspcmd/proxy/documentcontents.go DocumentContents.Get
      cmd/templ/lspcmd/proxy/documentcontents.go DocumentContents.Set
    A change of what one of them calls or how it branches breaks this theorem; the check then searches for a
    failing input and reports either that or `no-failing-input-found`. -/
theorem C17_transcription_pinned :
    Generated.skel_doc_Apply = 1459160687817986463 ∧
    Generated.skel_docs_Apply = 8278605816079025170 ∧
    Generated.skel_docs_Delete = 11745228130802125813 ∧
    Generated.skel_docs_Get = 5466098810276460731 ∧
    Generated.skel_docs_Set = 14886732193117025948 := by decide
-- END transcription pins

end TemplVerif.Props.C17
